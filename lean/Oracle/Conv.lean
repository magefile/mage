import Oracle.Common
import MageModel.Gen.StdConv
import MageModel.Parse.Fields
import MageModel.Parse.DocText
open Lean MageModel.Gen
namespace Oracle.Conv

/-- the conversions of `Gen/Strconv.lean`: since this round the oracle answers every question that involves
`strconv.Atoi`, `strconv.ParseBool` or `time.ParseDuration` from the model's own definitions; the answers the harness
records from the real functions are no longer consulted (they stay in the input for the replay's reader) -/
def modelConv : Conv := stdConv

def optJ (f : α → Json) : Option α → Json
  | none => Json.null
  | some a => f a

def handle (op : String) (j : Json) : R Json := do
  match op with
  | "conv.word" =>
    let w ← fldStr j "w"
    pure (obj [("atoi", optJ jint (Strconv.atoi w)), ("bool", optJ jbool (Strconv.parseBool w)), ("dur", optJ jint (Strconv.parseDuration w))])
  | "conv.doctext" =>
    let cs ← strList (← fld j "comments")
    pure (obj [("text", jstr (MageModel.Parse.DocText.groupText cs))])
  | "conv.fields" =>
    let c ← fldStr j "c"
    pure (obj [("fields", Json.arr ((MageModel.Parse.commentFields c).map jstr).toArray)])
  | "conv.durfmt" =>
    let d ← fldSInt j "d"
    let s := Strconv.durString d
    -- what mage relies on: the text parses back to the same duration
    pure (obj [("s", jstr s), ("back", optJ jint (Strconv.parseDuration s))])
  | _ => throw s!"unknown op {op}"

end Oracle.Conv
