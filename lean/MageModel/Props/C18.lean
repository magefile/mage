import MageModel.Parse.PkgLemmas
import MageModel.Gen.Emit
import MageModel.Gen.List
/-!
# C18 — the generated main program is a deterministic function of the magefiles
Go randomises the iteration order of every `range` over a map.  The model has no such freedom left: wherever the
source ranges over a map (`AstPkg.Files`, `importNames`) it sorts before anything order-dependent happens.  The
theorems say that this is enough: whatever order the map iteration produced, the sorted sequence — and hence the
unique import names, and everything generated from them — is the same.
-/
namespace MageModel.Props.C18
open MageModel.Parse

/-- **Sorting removes the iteration order**: two enumerations of the same entries (any permutation) are sorted to the
same list, provided the comparison is a total pre-order that distinguishes the entries. -/
theorem sort_perm_invariant {α} (le : α → α → Bool)
    (trans : ∀ a b c, le a b → le b c → le a c) (total : ∀ a b, le a b || le b a)
    (l l' : List α) (antisymm : ∀ a b, a ∈ l → b ∈ l → le a b → le b a → a = b) (h : l.Perm l') :
    l.mergeSort le = l'.mergeSort le :=
  mergeSort_eq_of_perm le trans total antisymm h

/-- instance for `sortBy`: entries with pairwise different keys, string order total and transitive (Go's `<` on
strings; stated as hypotheses about the keys that occur) -/
theorem sortBy_perm_invariant {α} (key : α → String) (l l' : List α)
    (trans : ∀ a b c : α, key a ≤ key b → key b ≤ key c → key a ≤ key c)
    (total : ∀ a b : α, key a ≤ key b ∨ key b ≤ key a)
    (inj : ∀ a b, a ∈ l → b ∈ l → key a ≤ key b → key b ≤ key a → a = b) (h : l.Perm l') :
    sortBy key l = sortBy key l' :=
  sortBy_eq_of_perm key h fun a b ha hb e => inj a b ha hb (e ▸ String.le_refl _) (e ▸ String.le_refl _)

/-- **The association between imported packages and their generated names does not vary**: the unique names are
assigned after sorting, so two map iteration orders give the same assignment. -/
theorem unique_names_order_independent (loaded loaded' : List (String × String × String × List Function))
    (key : String × String × String × List Function → String)
    (trans : ∀ a b c, key a ≤ key b → key b ≤ key c → key a ≤ key c)
    (total : ∀ a b, key a ≤ key b ∨ key b ≤ key a)
    (inj : ∀ a b, a ∈ loaded → b ∈ loaded → key a ≤ key b → key b ≤ key a → a = b) (h : loaded.Perm loaded') :
    assignUnique [] (sortBy key loaded) = assignUnique [] (sortBy key loaded') := by
  rw [sortBy_perm_invariant key loaded loaded' trans total inj h]

/-- **The bytes of the generated main file do not depend on the iteration order of the `Aliases` map** — for *every*
template (the theorem is parametric in the node list; the current template is the regenerated
`Generated.TemplateAst.nodes`), every set of `ExecCode` literals, every binary name and every package: two enumerations
of the same alias entries (distinct keys) produce the same text.  (`Funcs` and `Imports` are slices, sorted by
`Invoke` before generation: `unique_names_order_independent`, `sortBy_perm_invariant`.) -/
theorem emit_alias_order_irrelevant (nodes : List MageModel.Gen.Tpl.Node) (lits : List String) (bin : String) (info : PkgInfo)
    (a a' : List (String × Function)) (h : a.Perm a')
    (hkeys : ∀ x y, x ∈ a → y ∈ a → x.1 = y.1 → x = y) :
    MageModel.Gen.Emit.emit nodes lits bin { info with aliases := a } =
      MageModel.Gen.Emit.emit nodes lits bin { info with aliases := a' } := by
  unfold MageModel.Gen.Emit.emit MageModel.Gen.Emit.dataVal
  -- `dataVal` reads `info.aliases` only through `sortBy (·.1)` (Gen/Emit.lean, the "Aliases" field)
  rw [sortBy_eq_of_perm (·.1) h hkeys]

/-- … and it is a function of the package information and the binary name alone: nothing else enters `emit` -/
theorem emit_deterministic (nodes : List MageModel.Gen.Tpl.Node) (lits : List String) (bin : String) (info info' : PkgInfo)
    (hf : info.funcs = info'.funcs) (hi : info.imports = info'.imports) (hd : info.defaultFunc = info'.defaultFunc)
    (ha : info.aliases = info'.aliases) (hdesc : info.description = info'.description) :
    MageModel.Gen.Emit.emit nodes lits bin info = MageModel.Gen.Emit.emit nodes lits bin info' := by
  unfold MageModel.Gen.Emit.emit MageModel.Gen.Emit.dataVal
  rw [hf, hi, hd, ha, hdesc]

open MageModel.Gen
/-- **The target list does not depend on the order in which the targets were enumerated**: the generated `list` ranges
over a Go map (random order) and sorts the keys; two enumerations of the same targets print the same text.  The keys
are distinct for every package `checkDupes` accepts (hypothesis `hkeys`, in the weak form "equal keys, equal rows"). -/
theorem listText_order_independent (info info' : PkgInfo)
    (hd : info.defaultFunc = info'.defaultFunc) (hdesc : info.description = info'.description)
    (hp : (allTargets info).Perm (allTargets info'))
    (hkeys : ∀ f g, f ∈ allTargets info → g ∈ allTargets info → listKey info f = listKey info g → f.synopsis = g.synopsis) :
    listText info = listText info' := by
  have hk : listKey info = listKey info' := by funext f; unfold listKey; rw [hd]
  have hs : sortBy (·.1) (listRows info) = sortBy (·.1) (listRows info') := by
    refine sortBy_eq_of_perm _ (by unfold listRows; rw [hk]; exact hp.map _) fun x y hx hy hxy => ?_
    obtain ⟨f, hf, rfl⟩ := List.mem_map.mp hx
    obtain ⟨g, hg, rfl⟩ := List.mem_map.mp hy
    exact Prod.ext hxy (hkeys f g hf hg hxy)
  unfold listText
  rw [hs, hd, hdesc]

/-- the rows printed are the targets' rows, each exactly once (sorting permutes, nothing is dropped or invented) -/
theorem listed_rows_exact (info : PkgInfo) :
    (sortBy (·.1) (listRows info)).Perm ((allTargets info).map fun f => (listKey info f, f.synopsis)) :=
  sortBy_perm _ _

/-- **The synopses are aligned**: in every line of the table the synopsis starts in the same column, four blanks after
the widest name. -/
theorem tabulate_aligned (rows : List (String × String)) (r : String × String) (h : r ∈ rows) :
    (r.1.length + 2) + ((rows.map fun r => r.1.length + 2).foldl max 0 + 4 - (r.1.length + 2)) =
      (rows.map fun r => r.1.length + 2).foldl max 0 + 4 := by
  have : r.1.length + 2 ≤ (rows.map fun r => r.1.length + 2).foldl max 0 := by
    rw [List.foldl_max]
    exact Nat.le_trans (List.le_max?_getD_of_mem (List.mem_map_of_mem (f := fun r : String × String => r.1.length + 2) h))
      (Nat.le_max_right ..)
  exact Nat.add_sub_of_le (Nat.le_trans this (Nat.le_add_right _ 4))

/-- `-h <word>` succeeds exactly for the words that name a target (ignoring case); aliases are not looked up -/
theorem help_status (bin : String) (info : PkgInfo) (w : String) :
    (help bin info [w]).2 = 0 ↔ ∃ f ∈ allTargets info, lower f.targetName = lower w := by
  unfold help helpLookupFn
  dsimp only
  split
  · next f hfind =>
    simp only [true_iff]
    exact ⟨f, List.mem_of_find?_eq_some hfind, by simpa using List.find?_some hfind⟩
  · next hfind =>
    simp only [List.find?_eq_none] at hfind
    exact iff_of_false (by simp) fun ⟨f, hf, he⟩ => hfind f hf (by simpa using he)

-- a test, evaluated: `List.mergeSort` under `sortBy` is by well-founded recursion and does not reduce by `decide`
def listExample : PkgInfo :=
  { funcs := [({ name := "Build", isError := false, isContext := false, args := [], synopsis := "builds it" } : Function),
              ({ name := "Zap", isError := false, isContext := false, args := [] } : Function)],
    defaultFunc := some ({ name := "Build", isError := false, isContext := false, args := [] } : Function) }
#guard MageModel.Gen.listText listExample == "Targets:\n  build*    builds it\n  zap       \n\n* default target\n"

/-! ## the pinned tree (D16): numbering in map order -/
namespace Pinned
def a : String × String × String × List Function := ("x", "tools", "example.com/a/tools", [])
def b : String × String × String × List Function := ("y", "tools", "example.com/b/tools", [])
/-- two named imports whose packages are both called `tools`: the suffix follows the iteration order -/
theorem names_swap : (assignUnique [] [a, b]).map (fun i => (i.path, i.uniqueName)) ≠
    (assignUnique [] [b, a]).map (fun i => (i.path, i.uniqueName)) := by decide +kernel
theorem first_order : (assignUnique [] [a, b]).map (fun i => (i.path, i.uniqueName)) =
    [("example.com/a/tools", "tools_mageimport"), ("example.com/b/tools", "tools_mageimport1")] := by decide +kernel
end Pinned

/-- the numbering never produces the same name twice (three packages of one name included) -/
example : (assignUnique [] [Pinned.a, Pinned.b, ("", "tools", "example.com/c/tools", [])]).map (·.uniqueName) =
    ["tools_mageimport", "tools_mageimport1", "tools_mageimport2"] := by decide +kernel
example : [Pinned.a, Pinned.b].Perm [Pinned.b, Pinned.a] := List.Perm.swap _ _ _

end MageModel.Props.C18
