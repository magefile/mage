import MageModel.Gen.CtxLemmas
/-!
# C12 — `-t` bounds the run and cancels the context given to targets
All timeout values, all target durations on either side of the deadline, targets that honour or ignore
cancellation, any number of targets per invocation, all arrival times of one or two SIGINTs (simultaneous events
excluded), dependencies reached by CtxDeps or Deps.
-/
namespace MageModel.Props.C12
open MageModel.Gen.Ctx

/-! ## the head target of the remaining list, at any position and time -/

/-- nothing happens while the head target runs and it succeeds: the next one starts when it ends, same deadline -/
theorem head_quiet (e : Env) (dl : Option Nat) (i s : Nat) (t : Target) (rest : List Target) (started saw : List Nat)
    (hok : t.status = 0)
    (hdl : ∀ D, dl = some D → s + t.dur ≤ D)
    (hsig : ∀ g, sigDuring e.sig1 s = some g → s + t.dur ≤ g) :
    runFrom e dl false i s (t :: rest) started saw = runFrom e dl false (i+1) (s + t.dur) rest (started ++ [i]) saw := by
  rw [runFrom_quiet hdl hsig, if_neg (not_not_intro hok)]

/-- **The deadline ends the run, whether or not the running target honours its context**: if the shared deadline `D`
falls strictly inside the head target's run and no SIGINT came first, main exits at `D` with status 1, reporting the
deadline; nothing later starts. -/
theorem head_deadline (e : Env) (D i s : Nat) (t : Target) (rest : List Target) (started saw : List Nat)
    (hD : D < s + t.dur) (hsig : ∀ g, sigDuring e.sig1 s = some g → D < g) :
    (runFrom e (some D) false i s (t :: rest) started saw).ending = .deadline i ∧
    (runFrom e (some D) false i s (t :: rest) started saw).time = D ∧
    (runFrom e (some D) false i s (t :: rest) started saw).started = started ++ [i] ∧
    (runFrom e (some D) false i s (t :: rest) started saw).ending.status = 1 := by
  simp [runFrom, dlHit_eq_true hD hsig, Ending.status]

/-- the head target fails on its own before anything else happens: main exits with its status -/
theorem head_fails (e : Env) (dl : Option Nat) (i s : Nat) (t : Target) (rest : List Target) (started saw : List Nat)
    (hbad : t.status ≠ 0)
    (hdl : ∀ D, dl = some D → s + t.dur ≤ D)
    (hsig : ∀ g, sigDuring e.sig1 s = some g → s + t.dur ≤ g) :
    (runFrom e dl false i s (t :: rest) started saw).ending = .targetFailed i t.status := by
  rw [runFrom_quiet hdl hsig, if_pos hbad]

/-! ## the deadline is shared by all targets of the invocation -/

def total (ts : List Target) : Nat := (ts.map (·.dur)).sum

/-- **A run that finishes before the deadline is unaffected by `-t`**: same ending, same exit time, same targets
started, nobody sees a cancellation — as with no timeout at all (no SIGINT). -/
theorem under_deadline_unaffected (e : Env) (hs : e.sig1 = none) (D : Nat) (ts : List Target) :
    ∀ (i s : Nat) (started saw : List Nat), s + total ts ≤ D →
      runFrom e (some D) false i s ts started saw = runFrom e none false i s ts started saw := by
  induction ts with
  | nil => intro i s started saw _; rfl
  | cons t rest ih =>
    intro i s started saw h
    have htot : total (t :: rest) = t.dur + total rest := rfl
    rw [runFrom_quiet (by intro D' hD'; cases hD'; omega) (by simp [hs]), runFrom_quiet (by nofun) (by simp [hs]),
      ih _ _ _ _ (by omega)]

/-- with no timeout and no SIGINT nothing is ever cancelled and main exits only through its targets -/
theorem never_cancelled (e : Env) (hd : e.d = 0) (hs : e.sig1 = none) (ts : List Target) :
    ∀ (i s : Nat) (started saw : List Nat),
      (runFrom e none false i s ts started saw).sawCancel = saw ∧
      ((∃ st, (runFrom e none false i s ts started saw).ending = .finished st) ∨
       (∃ j st, (runFrom e none false i s ts started saw).ending = .targetFailed j st)) := by
  induction ts with
  | nil => intro i s started saw; exact ⟨rfl, Or.inl ⟨0, rfl⟩⟩
  | cons t rest ih =>
    intro i s started saw
    rw [runFrom_quiet (by nofun) (by simp [hs])]
    split
    · exact ⟨rfl, .inr ⟨_, _, rfl⟩⟩
    · exact ih ..

/-- **Shared deadline**: a second target that starts within the timeout still has only what is left of it.  First
target `a` (succeeds, shorter than `d`), then `b`: if together they exceed `d`, main reports the deadline at `t0 + d`
although `b` alone is shorter than `d`. -/
theorem shared_deadline (d t0 : Nat) (a b : Target) (rest : List Target) (hd : d ≠ 0) (ha : a.status = 0)
    (h1 : a.dur ≤ d) (h2 : d < a.dur + b.dur) :
    (run { d := d } t0 (a :: b :: rest)).ending = .deadline 1 ∧ (run { d := d } t0 (a :: b :: rest)).time = t0 + d := by
  have hdl : deadlineOf { d := d } t0 = some (t0 + d) := if_neg hd
  unfold run
  rw [hdl, runFrom_quiet (by intro D hD; cases hD; omega) (by nofun), if_neg (not_not_intro ha)]
  exact (head_deadline (hD := by omega) (hsig := by nofun) ..).imp_right And.left

/-- **first SIGINT, target honours its context**: it is cancelled and main exits with status 1 right then -/
theorem sigint_honoured (e : Env) (dl : Option Nat) (i s g : Nat) (t : Target) (rest : List Target) (started saw : List Nat)
    (hg : sigDuring e.sig1 s = some g) (hh : t.honours = true) (hbefore : g < s + t.dur) (hdl : ∀ D, dl = some D → g ≤ D) :
    (runFrom e dl false i s (t :: rest) started saw).ending = .cancelled i ∧ (runFrom e dl false i s (t :: rest) started saw).time = g := by
  have h1 : dlHit dl (some g) (s + t.dur) = false := dlHit_eq_false fun D hD => .inr ⟨g, rfl, hdl D hD⟩
  simp only [runFrom, hg, h1, sigHit_eq_true hbefore hdl, hh]
  exact ⟨rfl, rfl⟩

/-- **first SIGINT, target ignores it**: five seconds of grace, then "cleanup timeout exceeded" (status 1) — unless a
second SIGINT arrives first, which exits immediately ("exit forced", status 1) -/
theorem sigint_ignored (e : Env) (i s g : Nat) (t : Target) (rest : List Target) (started saw : List Nat)
    (hg : sigDuring e.sig1 s = some g) (hh : t.honours = false) (hlong : g + e.grace < s + t.dur) :
    (∀ g2, sigDuring e.sig2 g = some g2 → g2 < g + e.grace →
        (runFrom e none false i s (t :: rest) started saw).ending = .forced i ∧ (runFrom e none false i s (t :: rest) started saw).time = g2) ∧
    (sigDuring e.sig2 g = none →
        (runFrom e none false i s (t :: rest) started saw).ending = .cleanupTimeout i ∧
        (runFrom e none false i s (t :: rest) started saw).time = g + e.grace) := by
  have hsig : sigHit none (some g) (s + t.dur) = true := sigHit_eq_true (by omega) (by nofun)
  constructor
  · intro g2 h2 hlt
    have : g2 < s + t.dur := by omega
    simp [runFrom, hg, hh, hsig, h2, this, hlt, dlHit]
  · intro h2
    simp [runFrom, hg, hh, hsig, h2, hlong, dlHit]

/-- once a SIGINT has cancelled the context, a target that ignored it and ended within the grace period lets the run go
on — but the next target finds the context already cancelled and main exits with the context's error (status 1) -/
theorem after_cancel_next_target_fails (e : Env) (dl : Option Nat) (i s : Nat) (t : Target) (rest : List Target)
    (started saw : List Nat) :
    (runFrom e dl true i s (t :: rest) started saw).ending = .cancelled i ∧
    (runFrom e dl true i s (t :: rest) started saw).ending.status = 1 := ⟨rfl, rfl⟩

/-- every ending other than the targets' own carries status 1 -/
theorem abnormal_status_one (en : Ending) (h : ∀ st, en ≠ .finished st) (h' : ∀ j st, en ≠ .targetFailed j st) : en.status = 1 := by
  cases en with
  | finished st => exact absurd rfl (h st)
  | targetFailed j st => exact absurd rfl (h' j st)
  | _ => rfl

/-- a dependency all of whose requesters use CtxDeps with the invocation's context sees its cancellation -/
theorem ctxdeps_forward (requests : List Style) (winner : Nat) (hw : winner < requests.length)
    (h : ∀ r ∈ requests, r = .ctxDeps) : depSeesCancel requests winner = true := by
  unfold depSeesCancel depContext
  rw [List.getElem?_eq_getElem hw, h _ (List.getElem_mem hw)]
  rfl

/-- a dependency started by plain Deps / SerialDeps runs with a context that is never cancelled -/
theorem deps_background (requests : List Style) (winner : Nat) (h : ∀ r ∈ requests, r = .deps) :
    depSeesCancel requests winner = false := by
  unfold depSeesCancel depContext
  cases hg : requests[winner]? with
  | none => rfl
  | some r => rw [h r (List.mem_of_getElem? hg)]; rfl

/-- known finding C12:ctx-dep-won-by-plain-deps (D22): requested through both, the dependency runs with the context of
whoever won its once-cell — if that was plain Deps it never sees the deadline although it is reached through CtxDeps -/
example : depSeesCancel [.deps, .ctxDeps] 0 = false ∧ depSeesCancel [.deps, .ctxDeps] 1 = true := by decide

def sec (n : Nat) : Nat := n * 1000000000
example : (run { d := sec 1 } 0 [⟨sec 3, false, 0, true⟩]).ending = .deadline 0 := by decide
example : (run { d := sec 1 } 0 [⟨sec 3, false, 0, true⟩]).time = sec 1 := by decide
example : (run { d := sec 2 } 0 [⟨sec 1, true, 0, true⟩, ⟨sec 1 / 2, true, 0, true⟩]).ending = .finished 0 := by decide
example : (run { d := 0, sig1 := some (sec 1), sig2 := some (sec 2) } 0 [⟨sec 30, false, 0, true⟩]).ending = .forced 0 := by decide
example : (run { d := 0, sig1 := some (sec 1) } 0 [⟨sec 30, false, 0, true⟩]).time = sec 6 := by decide

end MageModel.Props.C12
