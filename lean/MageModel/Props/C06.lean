import MageModel.Parse.PkgLemmas
import MageModel.Gen.DispatchLemmas
import MageModel.Gen.LowerFirst
import MageModel.Gen.List
/-!
# C06 — targets are exactly the exported functions with a valid target signature
All ways of writing parameter and result lists: grouped names, unnamed and blank parameters, named results, any types.
-/
namespace MageModel.Props.C06
open MageModel.Parse MageModel.Gen

/-- the parameter (or result) types one by one: `a, b string` contributes two, an unnamed field one -/
def flatten (fs : List Field) : List TExpr :=
  fs.flatMap fun f => if f.names.isEmpty then [f.ty] else f.names.map fun _ => f.ty

/-- the parameters after the optional leading context -/
def afterCtx (ps : List TExpr) : List TExpr :=
  match ps with
  | t :: rest => if isContextTy t then rest else ps
  | [] => []

/-- **valid target signature**: an optional leading `context.Context`, then only `string`, `int`, `bool`,
`time.Duration`; the result is nothing or a single `error` (named or not). -/
def IsTargetSig (params results : List Field) : Prop :=
  (∀ t ∈ afterCtx (flatten params), (argTypeOf t).isSome = true) ∧
  (flatten results = [] ∨ ∃ t, flatten results = [t] ∧ t.printed = "error")

theorem flatten_cons (f : Field) (rest : List Field) :
    flatten (f :: rest) = (if f.names.isEmpty then [f.ty] else f.names.map fun _ => f.ty) ++ flatten rest := by
  simp [flatten]

theorem flatten_length (fs : List Field) : (flatten fs).length = numFields fs := by
  induction fs with
  | nil => rfl
  | cons f rest ih =>
    rw [flatten_cons, List.length_append, ih]
    simp only [numFields, List.map_cons, List.sum_cons]
    split <;> simp

theorem flatten_cons_head (f : Field) (rest : List Field) :
    flatten (f :: rest) = f.ty :: (List.replicate (f.names.length - 1) f.ty ++ flatten rest) := by
  rw [flatten_cons]
  cases f.names with
  | nil => rfl
  | cons a more => simp [← List.map_const']

theorem afterCtx_cons (t : TExpr) (ts : List TExpr) : afterCtx (t :: ts) = if isContextTy t then ts else t :: ts := rfl

-- both outcomes in one statement: each case of the induction then knows the value
private theorem collectArgs_result (fs : List Field) (n : Nat) :
    match collectArgs fs n with
    | .ok args => args.map (fun a => some a.type) = (flatten fs).map argTypeOf
    | .error _ => ∃ t ∈ flatten fs, argTypeOf t = none := by
  fun_induction collectArgs fs n with
  | case1 => rfl                                  -- no field left
  | case2 p rest n ht =>                          -- the field's type is unsupported
    exact ⟨p.ty, by rw [flatten_cons_head]; exact List.mem_cons_self, ht⟩
  | case3 p rest n typ ht here e he ih =>         -- a later field fails
    rw [he] at ih
    obtain ⟨t, hm, hn⟩ := ih
    exact ⟨t, by rw [flatten_cons_head]; exact List.mem_cons_of_mem _ (List.mem_append_right _ hm), hn⟩
  | case4 p rest n typ ht here more hm ih =>      -- this field gives `here`, the rest `more`
    rw [hm] at ih
    -- the types of `here` are this field's block of `flatten`: `typ` once, or once per name
    have hhere : here.map (fun a => some a.type) =
        (if p.names.isEmpty then [p.ty] else p.names.map fun _ => p.ty).map argTypeOf := by
      dsimp only [here]; split <;> simp [ht]
    simp only [flatten_cons, List.map_append, ih, hhere]

/-- the generated arguments are the declared parameters, one for one and in order, each with its Go type: this is
what defect D4 (unnamed parameters dropped) violated -/
theorem collectArgs_ok {fs : List Field} {n : Nat} {args : List Arg} (h : collectArgs fs n = .ok args) :
    args.map (fun a => some a.type) = (flatten fs).map argTypeOf := by
  simpa only [h] using collectArgs_result fs n

theorem collectArgs_error {fs : List Field} {n : Nat} {e : SigErr} (h : collectArgs fs n = .error e) :
    ∃ t ∈ flatten fs, argTypeOf t = none := by
  simpa only [h] using collectArgs_result fs n

theorem ctx_unsupported (t : TExpr) (h : isContextTy t = true) : argTypeOf t = none := by
  simp [isContextTy] at h; subst h; rfl

private theorem hasContextParam_result (params : List Field) :
    match hasContextParam params with
    | .ok b => flatten (if b then params.drop 1 else params) = afterCtx (flatten params) ∧
        (flatten params).length = (afterCtx (flatten params)).length + (if b then 1 else 0)
    | .error _ => ∃ t ∈ afterCtx (flatten params), argTypeOf t = none := by
  cases params with
  | nil => exact ⟨rfl, rfl⟩
  | cons p rest =>
    have hpos : ¬ numFields (p :: rest) < 1 := by rw [← flatten_length, flatten_cons_head]; simp
    rw [hasContextParam, if_neg hpos]
    cases hc : isContextTy p.ty with
    | false => simp [flatten_cons_head, afterCtx_cons, hc]
    | true =>
      simp only [Bool.not_true, Bool.false_eq_true, if_false]
      by_cases hl : p.names.length > 1
      · -- two contexts from one field: the second one is an unsupported parameter
        simp only [if_pos hl, flatten_cons_head, afterCtx_cons, hc, if_true]
        exact ⟨p.ty, List.mem_append_left _ (List.mem_replicate.mpr ⟨by omega, rfl⟩), ctx_unsupported _ hc⟩
      · have : p.names.length - 1 = 0 := by omega
        simp [if_neg hl, flatten_cons_head, afterCtx_cons, hc, this]

theorem hasContextParam_ok {params : List Field} {b : Bool} (h : hasContextParam params = .ok b) :
    flatten (if b then params.drop 1 else params) = afterCtx (flatten params) ∧
    (flatten params).length = (afterCtx (flatten params)).length + (if b then 1 else 0) := by
  simpa only [h] using hasContextParam_result params

theorem hasContextParam_error {params : List Field} {e : SigErr} (h : hasContextParam params = .error e) :
    ∃ t ∈ afterCtx (flatten params), argTypeOf t = none := by
  simpa only [h] using hasContextParam_result params

theorem hasErrorReturn_ok_iff {results : List Field} :
    (∃ b, hasErrorReturn results = .ok b) ↔
      (flatten results = [] ∨ ∃ t, flatten results = [t] ∧ t.printed = "error") := by
  cases results with
  | nil => simp [hasErrorReturn, numFields, flatten]
  | cons r rest =>
    simp only [hasErrorReturn, ← flatten_length, flatten_cons_head, List.length_cons]
    generalize hT : List.replicate (r.names.length - 1) r.ty ++ flatten rest = T
    cases T with
    | cons t T => simp      -- two results or more: rejected, and `flatten` is no singleton
    | nil =>
      -- exactly one result: the field has at most one name
      have hl : ¬ r.names.length > 1 := by
        have := (List.replicate_eq_nil_iff _).mp (List.append_eq_nil_iff.mp hT).1; omega
      by_cases he : r.ty.printed = "error" <;> simp [hl, he]

theorem funcType_ok_iff {params results : List Field} {f : FnSig} :
    funcType params results = .ok f ↔ hasContextParam params = .ok f.isContext ∧ hasErrorReturn results = .ok f.isError ∧
      collectArgs (if f.isContext then params.drop 1 else params) 0 = .ok f.args := by
  unfold funcType
  cases hasContextParam params with
  | error e => simp
  | ok c =>
    cases hasErrorReturn results with
    | error e => simp
    | ok e =>
      dsimp only
      constructor
      · intro h
        cases ha : collectArgs (if c = true then params.drop 1 else params) 0 with
        | error x => rw [ha] at h; cases h
        | ok args => rw [ha] at h; cases h; exact ⟨rfl, rfl, ha⟩
      · rintro ⟨hc, he, ha⟩; cases hc; cases he; simp only [ha]

theorem funcType_ok_args {params results : List Field} {f : FnSig} (h : funcType params results = .ok f) :
    f.args.map (fun a => some a.type) = (afterCtx (flatten params)).map argTypeOf ∧
    (flatten params).length = (afterCtx (flatten params)).length + (if f.isContext then 1 else 0) := by
  obtain ⟨h1, _, h3⟩ := funcType_ok_iff.mp h
  obtain ⟨hdrop, hlen⟩ := hasContextParam_ok h1
  exact ⟨hdrop ▸ collectArgs_ok h3, hlen⟩

/-- **Classification is exact**: `funcType` accepts a declaration iff its signature is a valid target signature
(`a, b context.Context` — two contexts in one field — is invalid under both). -/
theorem classify_iff (params results : List Field) :
    (∃ f, funcType params results = .ok f) ↔ IsTargetSig params results := by
  constructor
  · rintro ⟨f, h⟩
    refine ⟨fun t ht => ?_, hasErrorReturn_ok_iff.mp ⟨_, (funcType_ok_iff.mp h).2.1⟩⟩
    -- `t` is a parameter after the context, so its argument type is that of one of the generated arguments
    have hmem : argTypeOf t ∈ f.args.map (fun a => some a.type) := (funcType_ok_args h).1 ▸ List.mem_map_of_mem ht
    obtain ⟨a, -, hat⟩ := List.mem_map.mp hmem
    rw [← hat]; rfl
  · rintro ⟨hp, hr⟩
    have unsupported : ∀ {L : List TExpr}, (∃ t ∈ L, argTypeOf t = none) → ¬ ∀ t ∈ L, (argTypeOf t).isSome = true :=
      fun ⟨t, ht, hn⟩ h => by have := h t ht; rw [hn] at this; cases this
    obtain ⟨e, he⟩ := hasErrorReturn_ok_iff.mpr hr
    cases h1 : hasContextParam params with
    | error x => exact absurd hp (unsupported (hasContextParam_error h1))
    | ok c =>
      cases h3 : collectArgs (if c then params.drop 1 else params) 0 with
      | error x => exact absurd hp (unsupported ((hasContextParam_ok h1).1 ▸ collectArgs_error h3))
      | ok args => exact ⟨⟨c, e, args⟩, funcType_ok_iff.mpr ⟨h1, he, h3⟩⟩

/-- **Arity agrees**: the generated call passes exactly as many arguments as the declaration has non-context
parameters (grouped names expanded, unnamed parameters counted once) — defect D4 on the pinned tree. -/
theorem arity_agrees (params results : List Field) (f : FnSig) (h : funcType params results = .ok f) :
    f.args.length + (if f.isContext then 1 else 0) = (flatten params).length := by
  obtain ⟨ha, hl⟩ := funcType_ok_args h
  have := congrArg List.length ha
  simp only [List.length_map] at this
  rw [hl, this]

/-- what makes a declaration a target of its package: exported name, a valid target signature, and either no receiver
or a receiver whose base type is an exported type declared as `mg.Namespace`; a generic function (type parameters)
cannot be called without instantiation and is no target -/
def IsTargetDecl (p : Pkg) (d : FuncDecl) : Prop :=
  d ∈ p.files.flatMap (·.funcs) ∧ exported d.name = true ∧ d.typeParams = false ∧ (∃ s, funcType d.params d.results = .ok s) ∧
  (d.recv = none ∨ ∃ r t, d.recv = some r ∧ t ∈ p.files.flatMap (·.types) ∧ isNamespaceDecl t = true ∧ t.name = r.base)

/-- **The targets of a package are exactly the exported functions (and methods on exported `mg.Namespace` types) with
a valid target signature** — everything else is ignored, and nothing that qualifies is left out. -/
theorem targets_exact (p : Pkg) (f : Function) :
    f ∈ collectFuncs p ↔ ∃ d s, IsTargetDecl p d ∧ funcType d.params d.results = .ok s ∧ f = mkFunction d s := by
  unfold collectFuncs IsTargetDecl
  dsimp only
  generalize p.files.flatMap (·.funcs) = funcs
  generalize p.files.flatMap (·.types) = types
  simp only [List.mem_append, List.mem_flatMap, List.mem_filterMap, mem_sortBy, List.mem_filter, Bool.and_eq_true,
    beq_iff_eq, Option.isNone_iff_eq_none, Bool.not_eq_true']
  -- left of `↔`: `f` comes from a method `d` of a namespace type `t`, or from a plain function `d`; either way
  -- `d ∈ funcs`, the receiver condition `hr`, `he : exported d.name`, `htp : d.typeParams = false`, and
  -- `hf : (match funcType … with | .ok s => some (mkFunction d s) | .error _ => none) = some f`
  constructor
  · rintro (⟨t, ⟨ht, hns⟩, d, ⟨hd, ⟨hr, he⟩, htp⟩, hf⟩ | ⟨d, ⟨hd, ⟨hr, he⟩, htp⟩, hf⟩)
    · split at hf
      · next s hs =>
        cases hf
        obtain ⟨r, hrv, hb⟩ := Option.map_eq_some_iff.mp hr
        exact ⟨d, s, ⟨hd, he, htp, ⟨s, hs⟩, Or.inr ⟨r, t, hrv, ht, hns, hb.symm⟩⟩, hs, rfl⟩
      · cases hf
    · split at hf
      · next s hs => cases hf; exact ⟨d, s, ⟨hd, he, htp, ⟨s, hs⟩, Or.inl hr⟩, hs, rfl⟩
      · cases hf
  · rintro ⟨d, s, ⟨hd, he, htp, _, hr | ⟨r, t, hr, ht, hns, hname⟩⟩, hs, rfl⟩
    · exact Or.inr ⟨d, ⟨hd, ⟨hr, he⟩, htp⟩, by rw [hs]⟩
    · exact Or.inl ⟨t, ⟨ht, hns⟩, d, ⟨hd, ⟨by rw [hr, hname]; rfl, he⟩, htp⟩, by rw [hs]⟩

/-- **Which functions are targets does not depend on how the declarations are spread over files or in which order the
files are read**: two packages with the same declarations (as sets) have the same targets. -/
theorem targets_order_independent (p p' : Pkg)
    (hf : ∀ d, d ∈ p.files.flatMap (·.funcs) ↔ d ∈ p'.files.flatMap (·.funcs))
    (ht : ∀ t, t ∈ p.files.flatMap (·.types) ↔ t ∈ p'.files.flatMap (·.types)) (f : Function) :
    f ∈ collectFuncs p ↔ f ∈ collectFuncs p' := by
  simp only [targets_exact, IsTargetDecl, hf, ht]

theorem targets_file_order_independent (files files' : List File) (h : files.Perm files') (f : Function) :
    f ∈ collectFuncs ⟨files⟩ ↔ f ∈ collectFuncs ⟨files'⟩ := by
  exact targets_order_independent _ _ (fun _ => by simp only [List.mem_flatMap, h.mem_iff])
    (fun _ => by simp only [List.mem_flatMap, h.mem_iff]) f

/-- which entries of the listing carry the star: those whose target name is the default's -/
def starred (info : PkgInfo) : List Function :=
  (allTargets info).filter fun f => match info.defaultFunc with
    | some d => f.targetName == d.targetName
    | none => false

/-- **At most one listed target is starred, and it is the default** (D7: comparing only name and receiver starred
imported namesakes too) — whenever the runnable names are distinct, which the duplicate check guarantees. -/
theorem star_unique (info : PkgInfo) (h : ((allTargets info).map (·.targetName)).Nodup) :
    (starred info).length ≤ 1 ∧ ∀ f ∈ starred info, ∃ d, info.defaultFunc = some d ∧ f.targetName = d.targetName := by
  unfold starred
  cases hd : info.defaultFunc with
  | none =>
    have : (allTargets info).filter (fun _ => false) = [] := by simp
    simp [this]
  | some d =>
    dsimp only
    refine ⟨filter_key_le_one (fun (x : Function) => x.targetName) h d.targetName, ?_⟩
    intro f hf
    simp only [List.mem_filter, beq_iff_eq] at hf
    exact ⟨d, rfl, hf.2⟩

/-- the names `-l` prints are built from exactly those target names: a star iff `starred` -/
theorem listing_star (info : PkgInfo) (f : Function) :
    (match info.defaultFunc with | some d => (if d.targetName == f.targetName then "*" else "") | none => "") = "*" ↔
      (match info.defaultFunc with | some d => f.targetName == d.targetName | none => false) = true := by
  cases info.defaultFunc with
  | none => simp
  | some d =>
    dsimp only
    by_cases h : d.targetName = f.targetName
    · simp [h]
    · have h' : ¬ f.targetName = d.targetName := fun e => h e.symm
      simp [h, h']

/-- **Each listed name is runnable as printed**: the key `-l` prints for a target (without the star) resolves, on the
command line, to that very target — for every package the duplicate check accepts: runnable names pairwise different
ignoring case (`hnames`) and no alias equal to a target name (`halias`).  (`lowerFirst` changes letter case only,
`lower_lowerFirst`, and the dispatcher compares lower-cased names.) -/
theorem listed_name_runs (info : PkgInfo) (f : Function) (hf : f ∈ allTargets info)
    (hnames : ((allTargets info).map fun g => lower g.targetName).Nodup)
    (halias : ∀ a ∈ info.aliases, lower a.1 ≠ lower f.targetName) :
    resolve info (lowerFirst f.targetName) = some f :=
  resolve_own_name hf hnames halias (lower_lowerFirst _)

/-- the hypotheses of `listed_name_runs` are met by an ordinary package (two targets, one alias to another name) -/
example : ((allTargets { funcs := [({ name := "Build", isError := false, isContext := false, args := [] } : Function),
                                   ({ name := "TestAll", isError := false, isContext := false, args := [] } : Function)] }).map
            fun g => lower g.targetName).Nodup := by decide +kernel

/-- **The aliases `-h <target>` shows are aliases of that target**: each of them, typed on the command line, runs the
target it is listed under (D32 was the failure of this) — for packages the duplicate check accepts: runnable names
pairwise different ignoring case, alias keys included. -/
theorem help_alias_runs (info : PkgInfo) (f : Function) (a : String) (hf : f ∈ allTargets info)
    (ha : a ∈ helpAliases info f)
    (hnames : ((allTargets info).map fun g => lower g.targetName).Nodup)
    (hkeys : (info.aliases.map fun x => lower x.1).Nodup) :
    resolve info a = some f := by
  obtain ⟨⟨k, g⟩, hmem, rfl⟩ := List.mem_map.mp ha
  obtain ⟨hin, htn⟩ := List.mem_filter.mp hmem
  -- stated apart: left to `rw`, the unifier would try to compute `lower`
  have htn : g.targetName = f.targetName := eq_of_beq htn
  have hk := find?_key_of_nodup (fun x : String × Function => lower x.1) hkeys hin
  rw [resolve_alias hk, htn]
  exact find?_key_of_nodup (fun g : Function => lower g.targetName) hnames hf

/-- … and the listing contains a row for every target: with `listed_rows_exact` (Props/C18) the rows of `-l` are the
targets, one each; this is the key of `f`'s row -/
theorem listed_key_of_target (info : PkgInfo) (f : Function) (hf : f ∈ allTargets info) :
    (listKey info f, f.synopsis) ∈ sortBy (·.1) (listRows info) := by
  rw [mem_sortBy]
  unfold listRows
  exact List.mem_map.mpr ⟨f, hf, rfl⟩

/-! ### the pinned tree (D4): unnamed parameters produced no argument -/
namespace Pinned
/-- `for _, name := range param.Names` only -/
def collectArgsPinned : List Field → List Arg
  | [] => []
  | p :: rest => (match argTypeOf p.ty with
      | some typ => p.names.map fun nm => ⟨nm, typ⟩
      | none => []) ++ collectArgsPinned rest
/-- `func Build(string)`: one parameter declared, no argument generated -/
theorem unnamed_dropped : (collectArgsPinned [⟨[], .ident "string"⟩]).length = 0 ∧
    (flatten [⟨[], .ident "string"⟩]).length = 1 := by decide
theorem unnamed_counted_now : funcType [⟨[], .ident "string"⟩] [] = .ok ⟨false, false, [⟨"arg0", "string"⟩]⟩ := by decide +kernel
end Pinned

example : IsTargetSig [⟨["ctx"], .sel "context" "Context"⟩, ⟨["a", "b"], .ident "string"⟩, ⟨[], .sel "time" "Duration"⟩]
    [⟨["err"], .ident "error"⟩] := by
  refine ⟨?_, Or.inr ⟨.ident "error", by decide, by decide⟩⟩
  decide +kernel
example : funcType [⟨["ctx"], .sel "context" "Context"⟩, ⟨["a", "b"], .ident "string"⟩, ⟨[], .sel "time" "Duration"⟩]
    [⟨["err"], .ident "error"⟩] = .ok ⟨true, true, [⟨"a", "string"⟩, ⟨"b", "string"⟩, ⟨"arg2", "time.Duration"⟩]⟩ := by decide +kernel
example : ¬ IsTargetSig [⟨["a"], .ident "string"⟩, ⟨["ctx"], .sel "context" "Context"⟩] [] := by
  intro ⟨h, _⟩
  have := h (.sel "context" "Context") (by decide)
  cases this

end MageModel.Props.C06
