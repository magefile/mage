import MageModel.Invoke.CacheLemmas
import MageModel.Invoke.StepsLemmas
/-!
# C08 — mage always runs code built from the current magefile contents
Names: all file lists and their permutations; histories: all sequences of edit / clean / run operations, both cache
modes, `-f`, every fault vector; locations: every start directory, `-d`/`-w` directory and cache-directory spelling.
-/
namespace MageModel.Props.C08
open MageModel.Invoke MageModel.Invoke.Cache

/-! ## the name depends only on the multiset of contents, the template, the key and the toolchain version -/

/-- **Order and names of the files are irrelevant**: any permutation of the file list gives the same name. -/
theorem exeBase_perm {B : Type} (hx : B → String) (enc : List Char → B) (tpl : B) (key ver : String) (files files' : List B)
    (h : files.Perm files') : exeBase hx enc tpl key ver files = exeBase hx enc tpl key ver files' := by
  unfold exeBase exeText
  rw [sortStrings_eq_of_perm _ _ ((h.map hx).append_right [hx tpl])]

/-- **The name differs whenever the contents, the template or the toolchain version differ** — as far as SHA-1 has no
collision among the texts involved (`hinj` on the set `U`; unprovable, stated).  The template's hash is sorted in with
the files' hashes, so what is determined is the multiset "contents plus template". -/
theorem exeBase_inj {B : Type} [DecidableEq B] (hx : B → String) (enc : List Char → B) (U : B → Prop)
    (hinj : ∀ a b, U a → U b → hx a = hx b → a = b) (encInj : ∀ a b, enc a = enc b → a = b)
    (k0 : Char) (krest : List Char) (key : String) (hkey : key.toList = k0 :: krest)
    (hlen : ∀ b, (hx b).toList.length = 40) (hk : ∀ b, k0 ∉ (hx b).toList)
    (tpl tpl' : B) (ver ver' : String) (files files' : List B)
    (hU : ∀ b ∈ files ++ [tpl] ++ files' ++ [tpl'], U b)
    (hUt : U (enc (exeText (files.map hx ++ [hx tpl]) key ver)) ∧ U (enc (exeText (files'.map hx ++ [hx tpl']) key ver')))
    (h : exeBase hx enc tpl key ver files = exeBase hx enc tpl' key ver' files') :
    (files ++ [tpl]).Perm (files' ++ [tpl']) ∧ ver = ver' := by
  unfold exeBase at h
  have ht := encInj _ _ (hinj _ _ hUt.1 hUt.2 h)
  have e : ∀ (fs : List B) (t : B), fs.map hx ++ [hx t] = (fs ++ [t]).map hx := by simp
  unfold exeText at ht
  rw [hkey, e, e] at ht
  simp only [List.append_assoc, List.cons_append] at ht
  -- ht : blocks.flatten ++ k0 :: (krest ++ ver.toList) = blocks'.flatten ++ k0 :: (krest ++ ver'.toList)
  have blocks : ∀ fs : List B, ∀ x ∈ (sortStrings (fs.map hx)).map String.toList, x.length = 40 ∧ k0 ∉ x := by
    intro fs x hx'
    obtain ⟨s, hs, rfl⟩ := List.mem_map.mp hx'
    obtain ⟨b, _, rfl⟩ := List.mem_map.mp ((sortStrings_perm _).mem_iff.mp hs)
    exact ⟨hlen b, hk b⟩
  obtain ⟨hb, hv⟩ := blocks_key_decode (n := 40) (by omega) (blocks _) (blocks _) ht
  have hs : sortStrings ((files ++ [tpl]).map hx) = sortStrings ((files' ++ [tpl']).map hx) :=
    (List.map_inj_right fun _ _ => String.ext).mp hb
  have hperm : ((files ++ [tpl]).map hx).Perm ((files' ++ [tpl']).map hx) :=
    (sortStrings_perm _).symm.trans (hs ▸ sortStrings_perm _)
  -- hx is injective on everything in sight, so the permutation of the images is one of the arguments
  rw [List.append_assoc, List.forall_mem_append] at hU
  exact ⟨perm_of_map_perm hinj hU.1 hU.2 hperm, String.ext (List.append_cancel_left (as := krest) hv)⟩

/-- the hash used by the code has the shape the decoding argument needs: 40 characters, none of them `v` (the first
character of the rebuild key "v0.3") -/
theorem sha1_shape (b : ByteArray) : (Sha1.hexSum b).toList.length = 40 ∧ 'v' ∉ (Sha1.hexSum b).toList :=
  ⟨(Sha1.hex_length _).trans (by rw [Sha1.sum_length]), Sha1.not_mem_hex (by decide) _⟩

/-! ## every run executes a program built from the current contents, after any history -/
variable {Src : Type}

/-- the cache invariant survives every invocation, whatever fails in it -/
theorem invoke_sound (name : Src → Nat) (runBin : Src → Int) (r : Run Src) (F : Faults) (w : World Src)
    (hs : CacheSound name w) (hc : r.compileOut = none) :
    CacheSound name (invoke Cfg.fixed name runBin r F w).world :=
  hs.touches (exePath_eq_name hc ▸ invoke_touches Cfg.fixed name runBin r F w)

/-- **Never a binary built from other contents**: whatever an invocation starts was built from the current magefile
contents — in the default mode, in hash mode (reuse), with `-f`, and under every fault vector. -/
theorem invoke_ran_current (name : Src → Nat) (hinj : ∀ a b, name a = name b → a = b) (runBin : Src → Int) (r : Run Src)
    (F : Faults) (w : World Src) (hs : CacheSound name w) (hc : r.compileOut = none) (s : Src)
    (h : (invoke Cfg.fixed name runBin r F w).ran = some s) : s = r.src := by
  revert h
  refine invoke_cases (P := fun res => res.ran = some s → s = r.src) (fail := nofun) (reuse := fun h => ?_) (build :=
    buildAndRun_cases (P := fun res => res.ran = some s → s = r.src) (failed := fun _ _ _ => nofun)
      (compiled := fun _ => nofun) (startFails := fun _ _ => nofun)
      (runs := fun _ _ h => (Option.some.inj h).symm))
  -- reused: the executable found at the name of the current contents was built from contents of that name
  exact hs.lookup hinj (exePath_eq_name (name := name) hc ▸ runCompiled_ran h)

/-- **`-f` always recompiles**, and so does the default mode (Go build cache present, MAGEFILE_HASHFAST off) -/
theorem force_rebuilds (name : Src → Nat) (runBin : Src → Int) (r : Run Src) (w : World Src)
    (h : r.force = true ∨ rebuildAlways r = true) : (invoke Cfg.fixed name runBin r Faults.none w).built = true := by
  rw [invoke_none rfl, if_neg (not_reuses h.symm), buildAndRun_none]
  split <;> rfl

/-- **hash mode reuses** an existing binary of the right name without compiling (and it is the right binary) -/
theorem hash_mode_reuses (name : Src → Nat) (hinj : ∀ a b, name a = name b → a = b) (runBin : Src → Int) (r : Run Src)
    (w : World Src) (hs : CacheSound name w) (hc : r.compileOut = none)
    (hm : r.hashFast = true) (hf : r.force = false) (he : (w.cache (name r.src)).isSome = true) :
    (invoke Cfg.fixed name runBin r Faults.none w).built = false ∧
    (invoke Cfg.fixed name runBin r Faults.none w).ran = some r.src := by
  refine ⟨?_, (invoke_none_runs hinj hs hc).2⟩
  rw [invoke_none rfl, reuses_noCompile hc, if_pos (by simp [rebuildAlways, hm, hf, he])]
  exact runCompiled_built ..

/-- what can happen to a magefile directory and its cache between and during invocations -/
inductive Op (Src : Type) where
  | edit (s : Src)                         -- any change of the magefiles: edit, add, remove, rename, revert
  | clean (removed : Nat → Bool)           -- `mage -clean` (or a failing one: any subset of the entries disappears)
  | run (keep force hashFast goCache : Bool) (F : Faults)

def runHist (name : Src → Nat) (runBin : Src → Int) (dir : Nat) : List (Op Src) → Src → World Src → List (Src × Res Src)
  | [], _, _ => []
  | .edit s :: rest, _, w => runHist name runBin dir rest s w
  | .clean rm :: rest, cur, w => runHist name runBin dir rest cur { w with cache := fun p => if rm p then none else w.cache p }
  | .run k f h g F :: rest, cur, w =>
    let res := invoke Cfg.fixed name runBin { dir := dir, src := cur, keep := k, force := f, hashFast := h, goCache := g } F w
    (cur, res) :: runHist name runBin dir rest cur res.world

/-- **After any history of edits, cleans and runs — in both cache modes, with or without `-f`, whatever failed in
earlier runs — every run that starts a program starts one compiled from the contents current at that moment.** -/
theorem fresh (name : Src → Nat) (hinj : ∀ a b, name a = name b → a = b) (runBin : Src → Int) (dir : Nat)
    (ops : List (Op Src)) (cur : Src) (w : World Src) (hs : CacheSound name w) :
    ∀ p ∈ runHist name runBin dir ops cur w, ∀ s, p.2.ran = some s → s = p.1 := by
  induction ops generalizing cur w with
  | nil => intro p hp; cases hp
  | cons op rest ih =>
    cases op with
    | edit s => exact ih s w hs
    | clean rm => exact ih cur _ (hs.clean rm)
    | run k f h g F =>
      intro p hp s hran
      simp only [runHist, List.mem_cons] at hp
      rcases hp with rfl | hp
      · exact invoke_ran_current name hinj runBin _ F w hs rfl s hran
      · exact ih cur _ (invoke_sound name runBin _ F w hs rfl) p hp s hran

/-- in a fault-free run something *is* started, so the statement above is not vacuous -/
theorem fault_free_run_starts (name : Src → Nat) (hinj : ∀ a b, name a = name b → a = b) (runBin : Src → Int) (r : Run Src)
    (w : World Src) (hs : CacheSound name w) (hc : r.compileOut = none) :
    (invoke Cfg.fixed name runBin r Faults.none w).ran = some r.src :=
  (invoke_none_runs hinj hs hc).2

/-- the cache path is absolute as soon as the start directory is, so the three places that use it — the existence
test in mage's own directory, `go build -o` in the `-d` directory, the exec in the `-w` directory — mean the same file -/
theorem one_location (startCwd cacheDir base : String) (d1 d2 : String)
    (h : Paths.isAbs (Cache.exePath startCwd cacheDir base) = true) :
    Paths.absFrom d1 (Cache.exePath startCwd cacheDir base) = Paths.absFrom d2 (Cache.exePath startCwd cacheDir base) := by
  simp [Paths.absFrom, h]

example : Cache.exePath "/start" "cache" "abc" = "/start/cache/abc" := by decide +kernel
example : Paths.isAbs (Cache.exePath "/start" "../c" "abc") = true := by decide +kernel
/-- witness for the cache directory used verbatim (D9): a relative one means different files in different directories -/
example : Paths.absFrom "/start/proj" (Paths.join "cache" "abc") ≠ Paths.absFrom "/start/work" (Paths.join "cache" "abc") := by decide +kernel

end MageModel.Props.C08
