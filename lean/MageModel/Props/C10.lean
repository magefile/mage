import MageModel.Invoke.SelectLemmas
import MageModel.Invoke.BuildEnvLemmas
/-!
# C10 — only files that require the mage build tag are compiled as magefiles
All directories (any files, any constraint expressions, any names), all platforms, all caller environments.
-/
namespace MageModel.Props.C10
open MageModel.Invoke.Select MageModel.Invoke MageModel.Gen.Flags

/-! ## the selection is exactly "satisfied with the mage tag and not without it" -/

/-- **Ordinary directory**: a name is a magefile iff some file of that name is satisfied with the `mage` tag set
and no file of that name is satisfied without it. -/
theorem selection_spec (p : Plat) (files : List File) (n : String) :
    n ∈ magefiles p files false ↔
      (∃ f ∈ files, f.name = n ∧ sat p ["mage"] f = true) ∧ ¬ (∃ g ∈ files, g.name = n ∧ sat p [""] g = true) := by
  simp only [magefiles, Bool.false_eq_true, if_false, List.mem_filter, mem_listGo_iff, Bool.not_eq_true',
    List.contains_eq_mem, decide_eq_false_iff_not]

theorem selection_spec_file (p : Plat) (files : List File) (f : File) (hf : f ∈ files)
    (huniq : ∀ g ∈ files, g.name = f.name → g = f) :
    f.name ∈ magefiles p files false ↔ (sat p ["mage"] f = true ∧ sat p [""] f = false) := by
  rw [selection_spec, exists_sat_iff hf huniq, exists_sat_iff hf huniq, Bool.not_eq_true]

/-- **`magefiles` directory**: every file satisfied with the mage tag set is used, tagged or not -/
theorem magefiles_dir_all (p : Plat) (files : List File) (n : String) :
    n ∈ magefiles p files true ↔ ∃ f ∈ files, f.name = n ∧ sat p ["mage"] f = true := by
  simp only [magefiles, if_true, mem_listGo_iff]

/-! ## files that do not mention `mage` are never magefiles -/

def tagsOf : Expr → List String
  | .tag t => [t]
  | .not e => tagsOf e
  | .and a b => tagsOf a ++ tagsOf b
  | .or a b => tagsOf a ++ tagsOf b

theorem eval_congr (p : Plat) {tags tags' : List String} {e : Expr}
    (h : ∀ t ∈ tagsOf e, tags.contains t = tags'.contains t) : eval p tags e = eval p tags' e := by
  induction e with
  | tag t => exact tagTrue_congr p (h t (List.mem_singleton.mpr rfl))
  | not e ih => simp only [eval, ih h]
  | and a b iha ihb | or a b iha ihb =>
    simp only [eval, iha fun t ht => h t (List.mem_append_left _ ht), ihb fun t ht => h t (List.mem_append_right _ ht)]

theorem eval_irrelevant (p : Plat) (e : Expr) (h : ∀ t ∈ tagsOf e, t ≠ "mage" ∧ t ≠ "") :
    eval p ["mage"] e = eval p [""] e :=
  eval_congr p fun t ht => tagLists_agree (h t ht)

/-- the platform suffix of a file name only ever names operating systems and architectures -/
theorem nameTags_known (name : String) : ∀ t ∈ nameTags name, knownOS.contains t = true ∨ knownArch.contains t = true := by
  fun_cases nameTags name with
  | case1 | case4 | case6 | case7 => exact nofun   -- no `_`; the last part (or the only one, or none) is not a known name
  | case2 =>                                       -- `_os_arch`
    rename_i h
    rw [Bool.and_eq_true] at h
    exact List.forall_mem_cons.mpr ⟨.inr h.2, List.forall_mem_cons.mpr ⟨.inl h.1, nofun⟩⟩
  | case3 | case5 =>                               -- the last, or only, part is a known name
    rename_i h
    rw [Bool.or_eq_true] at h
    exact List.forall_mem_cons.mpr ⟨h, nofun⟩

/-- **A file whose constraints do not mention `mage` (or that has none) is never a magefile of an ordinary
directory** — whatever else its constraints say, on every platform. -/
theorem untagged_never (p : Plat) (files : List File) (f : File) (hf : f ∈ files)
    (huniq : ∀ g ∈ files, g.name = f.name → g = f)
    (h : ∀ e, f.constraint = some e → ∀ t ∈ tagsOf e, t ≠ "mage" ∧ t ≠ "") :
    f.name ∉ magefiles p files false := by
  rw [selection_spec_file p files f hf huniq,
    sat_congr (fun t ht => tagLists_agree (known_not_mage_nor_empty (nameTags_known f.name t ht)))
      fun e he => eval_irrelevant p e (h e he)]
  rintro ⟨h1, h2⟩
  rw [h1] at h2; cases h2

/-- test files, hidden files and non-Go files are never magefiles, in either kind of directory -/
theorem test_hidden_never (p : Plat) (files : List File) (f : File) (hf : f ∈ files)
    (huniq : ∀ g ∈ files, g.name = f.name → g = f) (isMfDir : Bool)
    (h : isTest f = true ∨ goodName f = false) : f.name ∉ magefiles p files isMfDir := by
  have hs : ∀ tags, sat p tags f = false := by
    intro tags
    unfold sat
    rcases h with h | h <;> simp [h]
  cases isMfDir with
  | true =>
    rw [magefiles_dir_all, exists_sat_iff hf huniq, hs]
    exact Bool.false_ne_true
  | false =>
    rw [selection_spec_file p files f hf huniq, hs]
    exact fun h => Bool.false_ne_true h.1

/-- a file constrained by exactly `mage` (and without a platform suffix) is a magefile on every platform -/
theorem plain_mage_file_always (p : Plat) (files : List File) (f : File) (hf : f ∈ files)
    (huniq : ∀ g ∈ files, g.name = f.name → g = f)
    (hc : f.constraint = some (.tag "mage")) (hg : goodName f = true) (ht : isTest f = false) (hn : nameTags f.name = [])
    (hp : p.os ≠ "mage" ∧ p.arch ≠ "mage") :
    f.name ∈ magefiles p files false := by
  rw [selection_spec_file p files f hf huniq]
  have hs (tags : List String) : sat p tags f = tags.contains "mage" := by
    simp only [sat, hg, hn, ht, hc, eval, tagTrue_mage tags hp, List.all_nil, Bool.true_and, Bool.not_false,
      Bool.and_true]
  rw [hs, hs]; decide

/-! ## the magefiles directory is used exactly when the directory itself has no magefiles -/

theorem choose_rule (p : Plat) (d : DirState) :
    ((choose p d).usesMagefilesDir = true ↔ ∃ sf, d.sub = some sf ∧ (d.broken = true ∨ magefiles p d.files false = [])) ∧
    (∀ sf, d.sub = some sf → (choose p d).usesMagefilesDir = true → (choose p d).files = magefiles p sf true) ∧
    ((choose p d).usesMagefilesDir = false → (choose p d).files = magefiles p d.files false) := by
  unfold choose
  cases hs : d.sub with
  | none => simp
  | some sf =>
    dsimp only
    by_cases hb : d.broken = true
    · simp [hb]
    · by_cases he : (magefiles p d.files false).isEmpty = true
      · simp [hb, List.isEmpty_iff.mp he]
      · have : magefiles p d.files false ≠ [] := fun h => he (by simp [h])
        simp [hb, he, this]

/-- `listGoFiles` reads GOOS and GOARCH from the environment `EnvWithGOOS` built; they are `platOf host goos goarch`
whatever the caller's environment contains and in whatever order the map is iterated — and `Compile` passes the
same environment to `go build`, so `-compile` output is for the same platform. -/
theorem platform_is_flag_or_host (host : Plat) (goos goarch : String) (E L : Env)
    (hp : L.Perm (BuildEnv.goosMap host.os host.arch goos goarch E)) :
    getenv L "GOOS" = (platOf host goos goarch).os ∧ getenv L "GOARCH" = (platOf host goos goarch).arch :=
  BuildEnv.platform_is_flag_or_host host.os host.arch goos goarch E L hp

/-! ## non-vacuity: a directory with every kind of file -/
def linux : Plat := { os := "linux", arch := "amd64" }
def exDir : List File :=
  [ ⟨"a.go", some (.tag "mage"), "main"⟩,
    ⟨"b.go", none, "main"⟩,
    ⟨"c_windows.go", some (.tag "mage"), "main"⟩,
    ⟨"d.go", some (.and (.tag "mage") (.not (.tag "windows"))), "main"⟩,
    ⟨"e.go", some (.or (.tag "mage") (.tag "linux")), "main"⟩,      -- satisfied without the tag on linux
    ⟨"f_test.go", some (.tag "mage"), "main"⟩,
    ⟨"_g.go", some (.tag "mage"), "main"⟩,
    ⟨"h.go", some (.tag "ignore"), "main"⟩,
    ⟨"i.go", some (.not (.tag "mage")), "main"⟩ ]
example : magefiles linux exDir false = ["a.go", "d.go"] := by decide +kernel
example : magefiles { os := "windows", arch := "amd64" } exDir false = ["a.go", "c_windows.go", "e.go"] := by decide +kernel
example : magefiles linux exDir true = ["a.go", "b.go", "d.go", "e.go"] := by decide +kernel
example : nameTags "foo_linux_amd64_test.go" = ["amd64", "linux"] := by decide +kernel
example : nameTags "linux.go" = [] := by decide +kernel
example : nameTags "x.y_linux.go" = [] := by decide +kernel

end MageModel.Props.C10
