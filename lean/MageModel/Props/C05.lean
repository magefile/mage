import MageModel.Deps.Exit
import MageModel.Gen.MainLemmas
import MageModel.Gen.DispatchLemmas
import MageModel.Invoke.Front
import MageModel.Invoke.StepsLemmas
/-!
# C05 — the process exit status reflects the outcome of the targets
Quantifiers: all `PkgInfo`s, all word lists, all environments, all outcome assignments, all fault vectors.
-/
namespace MageModel.Props.C05
open MageModel.Parse MageModel.Gen MageModel.Gen.Flags MageModel.Invoke MageModel.Deps

/-! ## the status carried by a failure -/

theorem status_ok : Outcome.ok.status = 0 := rfl
theorem status_plain_error : (Outcome.err none).status = 1 := rfl
theorem status_fatal (c : Int) : (Outcome.err (some c)).status = c := rfl
theorem status_panic_error (c : Int) : (Outcome.panicErr (some c)).status = c := rfl
theorem status_panic_plain : (Outcome.panicErr none).status = 1 := rfl
theorem status_panic_value : Outcome.panicVal.status = 1 := rfl
theorem status_os_exit (c : Int) : (Outcome.osExit c).status = c := rfl

/-- failed dependencies that all carry the same status `c`: the run exits with `c` -/
theorem status_deps_common (c : Int) (codes : List Int) (hne : codes ≠ []) (h : ∀ x ∈ codes, x = c) :
    (Outcome.depsFailed codes).status = c := by
  show foldExit 0 codes = c
  rw [foldExit_common h (Or.inl rfl), if_neg hne]

/-- failed dependencies with two different non-zero statuses: the run exits with 1 -/
theorem status_deps_mixed (codes : List Int) (h0 : ∀ x ∈ codes, x ≠ 0) (a b : Int) (ha : a ∈ codes) (hb : b ∈ codes)
    (hab : a ≠ b) : (Outcome.depsFailed codes).status = 1 :=
  foldExit_mixed h0 ha hb hab

/-- outside the legal range the operating system truncates: `mg.Fatal(256, …)` exits 0.  This is why the
property (and the theorems below) quantify over codes 1..255. -/
example : osStatus 256 = 0 := by decide
example : osStatus (-1) = 255 := by decide

/-- every failure carries a status in 1..255 (`ok` carries 0) -/
def ValidCodes (out : Call → Outcome) : Prop := ∀ c, out c ≠ .ok → 1 ≤ (out c).status ∧ (out c).status ≤ 255

/-! ## the dispatch loop: first failure wins, nothing later runs -/

/-- shape of a run of the loop: the status is 0 exactly when the loop was not stopped; a stop is either the first
failing target (its status; every earlier call succeeded; nothing after it) or misuse (status 2, before the body of
the offending target) -/
def Shape (outcome : Call → Int) (r : Result) : Prop :=
  (r.stop = none → r.status = 0 ∧ ∀ c ∈ r.calls, outcome c = 0) ∧
  (∀ st, r.stop = some (.targetFailed st) → r.status = st ∧ st ≠ 0 ∧
      ∃ init c, r.calls = init ++ [c] ∧ outcome c = st ∧ ∀ c' ∈ init, outcome c' = 0) ∧
  (∀ s, r.stop = some s → (∀ st, s ≠ .targetFailed st) → r.status = 2 ∧ ∀ c ∈ r.calls, outcome c = 0)

section
variable {outcome : Call → Int}

theorem Shape.done : Shape outcome ⟨[], 0, none⟩ := by simp [Shape]

theorem Shape.misuse {s : Stop} (hs : ∀ st, s ≠ .targetFailed st) : Shape outcome ⟨[], 2, some s⟩ :=
  ⟨nofun, fun st h => absurd (Option.some.inj h) (hs st), fun _ _ _ => ⟨rfl, nofun⟩⟩

theorem Shape.failed {c : Call} (h : outcome c ≠ 0) : Shape outcome ⟨[c], outcome c, some (.targetFailed (outcome c))⟩ :=
  ⟨nofun, fun st hs => by cases hs; exact ⟨rfl, h, [], c, rfl, rfl, nofun⟩,
   fun s hs hn => absurd (Option.some.inj hs).symm (hn _)⟩

theorem Shape.cons {r : Result} {c0 : Call} (h0 : outcome c0 = 0) (h : Shape outcome r) :
    Shape outcome ⟨c0 :: r.calls, r.status, r.stop⟩ := by
  obtain ⟨h1, h2, h3⟩ := h
  have mem : (∀ c ∈ r.calls, outcome c = 0) → ∀ c ∈ c0 :: r.calls, outcome c = 0 :=
    fun hh => List.forall_mem_cons.mpr ⟨h0, hh⟩
  refine ⟨fun hs => ⟨(h1 hs).1, mem (h1 hs).2⟩, ?_, fun s hs hn => ⟨(h3 s hs hn).1, mem (h3 s hs hn).2⟩⟩
  intro st hs
  obtain ⟨a, b, init, c, e1, e2, e3⟩ := h2 st hs
  exact ⟨a, b, c0 :: init, c, by rw [e1]; rfl, e2, List.forall_mem_cons.mpr ⟨h0, e3⟩⟩

theorem Shape.single (c : Call) :
    Shape outcome ⟨[c], outcome c, if outcome c ≠ 0 then some (.targetFailed (outcome c)) else none⟩ := by
  by_cases h : outcome c = 0
  · rw [if_neg (not_not_intro h), h]
    exact Shape.cons (r := ⟨[], 0, none⟩) h Shape.done
  · rw [if_pos h]
    exact Shape.failed h

end

theorem dispatch_shape (info : PkgInfo) (conv : Conv) (outcome : Call → Int) (fuel : Nat) (words : List String) :
    Shape outcome (dispatch info conv outcome fuel words) := by
  fun_induction dispatch info conv outcome fuel words with
  | case1 | case2 => exact Shape.done               -- out of fuel; no word left
  | case3 | case4 => exact Shape.misuse nofun       -- unknown target; too few words for its parameters
  | case5 =>                                        -- a word does not convert
    rename_i e hc
    obtain ⟨k, w', rfl⟩ := convertArgs_error_badArg hc
    exact Shape.misuse nofun
  | case6 =>                                        -- the target fails
    rename_i h
    exact Shape.failed h
  | case7 =>                                        -- the target succeeds, the loop goes on
    rename_i h _ ih
    exact Shape.cons (Decidable.not_not.mp h) ih

theorem run_shape (info : PkgInfo) (conv : Conv) (outcome : Call → Int) (ign : Bool) (words : List String) :
    Shape outcome (Gen.run info conv outcome ign words).1 ∧
    ((Gen.run info conv outcome ign words).2 = true → (Gen.run info conv outcome ign words).1.stop = none) := by
  fun_cases Gen.run info conv outcome ign words with
  | case1 | case4 => exact ⟨Shape.done, fun _ => rfl⟩            -- no words: default ignored; no default (list printed)
  | case2 => exact ⟨Shape.misuse nofun, nofun⟩                   -- no words: the default target takes parameters
  | case3 => exact ⟨Shape.single _, nofun⟩                       -- no words: the default target runs
  | case5 => exact ⟨dispatch_shape _ _ _ _ _, nofun⟩             -- words

/-! ## the generated main over every command line -/

theorem ok_of_status_zero {out : Call → Outcome} (hv : ValidCodes out) {l : List Call} (h : ∀ c ∈ l, (out c).status = 0) :
    ∀ c ∈ l, out c = .ok := by
  intro c hc
  by_cases hok : out c = .ok
  · exact hok
  · have := (hv c hok).1
    have := h c hc
    omega

/-- **Classification of every run of a compiled magefile** (all packages, environments, argument vectors, outcome
assignments with legal codes).  Exactly one of:
* status 0 — it printed usage, the list or a target's help, or every requested target ran and ended ok;
* status 2 — misuse: bad flag, help for an unknown target, unknown target, missing or unconvertible argument; every
  target executed before the offending word ended ok;
* the status carried by the first failing target; every earlier target ended ok and nothing after it ran. -/
theorem child_classification (info : PkgInfo) (conv : Conv) (out : Call → Outcome) (E : Env) (argv : List String)
    (hv : ValidCodes out) :
    let r := childMain info conv out E argv
    (r.status = 0 ∧ r.stop = none ∧ (∀ c ∈ r.calls, out c = .ok) ∧
        (r.how = .usage ∨ r.how = .listed ∨ (∃ t, r.how = .helpShown t) ∨ r.how = .ran)) ∨
    (r.status = 2 ∧ (∀ c ∈ r.calls, out c = .ok) ∧
        ((∃ e, r.how = .flagError e) ∨ (∃ w, r.how = .helpUnknown w) ∨
         (r.how = .ran ∧ ∃ s, r.stop = some s ∧ ∀ st, s ≠ .targetFailed st))) ∨
    (r.how = .ran ∧ ∃ init c, r.calls = init ++ [c] ∧ out c ≠ .ok ∧ r.status = (out c).status ∧
        r.stop = some (.targetFailed (out c).status) ∧ ∀ c' ∈ init, out c' = .ok) := by
  intro r
  have hr : r = childMain info conv out E argv := rfl
  clear_value r   -- the motive of `childCore_cases` is only found for a plain variable
  unfold childMain at hr
  split at hr
  · subst hr; exact .inl ⟨rfl, rfl, nofun, .inl rfl⟩                   -- `-help`: usage
  · subst hr; exact .inr (.inl ⟨rfl, nofun, .inl ⟨_, rfl⟩⟩)            -- any other flag error
  rename_i words _
  refine childCore_cases r hr ?_ ?_ ?_
  · intro how h                                                        -- usage, the list, a target's help
    -- `h` lists three of the four ways `how` may read in the first disjunct; `.ran` is the fourth
    exact .inl ⟨rfl, rfl, nofun, h.imp_right (·.imp_right .inl)⟩
  · intro w                                                            -- help for an unknown target
    exact .inr (.inl ⟨rfl, nofun, .inr (.inl ⟨w, rfl⟩)⟩)
  · -- targets were dispatched: the three clauses of `Shape`, read with `status = 0 ↔ ok`
    rintro ⟨res, listed⟩ hrr
    have ⟨⟨h1, h2, h3⟩, hl⟩ := hrr ▸ run_shape info conv (fun c => (out c).status) _ words
    show (res.status = 0 ∧ res.stop = none ∧ _ ∧ _) ∨ (res.status = 2 ∧ _ ∧ _) ∨ _
    cases hs : res.stop with
    | none =>
      have ⟨a1, a2⟩ := h1 hs
      exact .inl ⟨a1, rfl, ok_of_status_zero hv a2, by cases listed <;> simp⟩
    | some s =>
      have hnl : listed = false := Bool.eq_false_iff.mpr fun hlt => by rw [hl hlt] at hs; cases hs
      subst hnl
      cases s with
      | targetFailed st =>
        obtain ⟨a1, a2, init, c, e1, e2, e3⟩ := h2 st hs
        subst e2
        exact .inr (.inr ⟨rfl, init, c, e1, fun hok => a2 (congrArg Outcome.status hok), a1, rfl, ok_of_status_zero hv e3⟩)
      | _ =>                   -- stopped by misuse
        have ⟨a1, a2⟩ := h3 _ hs nofun
        exact .inr (.inl ⟨a1, ok_of_status_zero hv a2, .inr (.inr ⟨rfl, _, rfl, nofun⟩)⟩)

/-- the status of a compiled magefile is always a legal exit code, so the parent sees it unchanged -/
theorem child_status_legal (info : PkgInfo) (conv : Conv) (out : Call → Outcome) (E : Env) (argv : List String)
    (hv : ValidCodes out) : osStatus (childMain info conv out E argv).status = (childMain info conv out E argv).status := by
  have h : 0 ≤ (childMain info conv out E argv).status ∧ (childMain info conv out E argv).status ≤ 255 := by
    rcases child_classification info conv out E argv hv with h | h | ⟨_, init, c, _, hne, hst, _⟩
    · omega
    · omega
    · have := hv c hne; omega
  exact osStatus_id h.1 h.2

/-- **exit 0 if and only if nothing failed**: the run was not stopped and every executed target ended ok -/
theorem child_exit_zero_iff (info : PkgInfo) (conv : Conv) (out : Call → Outcome) (E : Env) (argv : List String)
    (hv : ValidCodes out) (r : ChildOut) (hr : r = childMain info conv out E argv) :
    osStatus r.status = 0 ↔
      (r.stop = none ∧ (∀ c ∈ r.calls, out c = .ok) ∧ (∀ e, r.how ≠ .flagError e) ∧ (∀ w, r.how ≠ .helpUnknown w)) := by
  subst hr
  rw [child_status_legal info conv out E argv hv]
  rcases child_classification info conv out E argv hv with ⟨h0, hs, hc, hh⟩ | ⟨h2, hc, hh⟩ | ⟨hr, init, c, e1, hne, hst, hstop, _⟩
  · exact ⟨fun _ => ⟨hs, hc, fun e he => by simp [he] at hh, fun w he => by simp [he] at hh⟩, fun _ => h0⟩
  · refine ⟨fun h => by omega, fun ⟨hs, _, hf, hu⟩ => ?_⟩
    rcases hh with ⟨e, he⟩ | ⟨w, he⟩ | ⟨_, s, hs', _⟩
    · exact absurd he (hf e)
    · exact absurd he (hu w)
    · rw [hs] at hs'; cases hs'
  · exact ⟨fun h => by have := hv c hne; omega, fun ⟨hs, _⟩ => by rw [hs] at hstop; cases hstop⟩

/-- command-line misuse (bad flag, conflicting commands, -goos without -compile, stray words) exits 2; usage exits 0 -/
theorem front_misuse (pd : String → Option Int) (E : Env) (argv : List String) (i c : Bool) (k : Inv → Int) :
    (∀ m, frontParse pd E argv = .misuse m → parseAndRun pd E argv i c k = 2) ∧
    (frontParse pd E argv = .usage → parseAndRun pd E argv i c k = 0) := by
  constructor
  · intro m h; simp [parseAndRun, h]
  · intro h; simp [parseAndRun, h]

variable {Src : Type}

/-- **the front end returns exactly the status of the program it ran** — whether it compiled it in this invocation or
reused a cached binary (hash mode), provided nothing failed before the program started -/
theorem front_transparent (name : Src → Nat) (hinj : ∀ a b, name a = name b → a = b) (runBin : Src → Int) (r : Run Src)
    (w : World Src) (hs : CacheSound name w) (hc : r.compileOut = none) :
    (invoke Invoke.Cfg.fixed name runBin r Faults.none w).status = osStatus (runBin r.src) :=
  (invoke_none_runs hinj hs hc).1

/-- `-compile` that succeeds exits 0 without running anything -/
theorem compile_success (name : Src → Nat) (runBin : Src → Int) (r : Run Src) (w : World Src) (p : Nat)
    (hc : r.compileOut = some p) (hf : r.force = true) :
    (invoke Invoke.Cfg.fixed name runBin r Faults.none w).status = 0 := by
  rw [invoke_none rfl, if_neg (not_reuses (.inr hf)), buildAndRun_none]
  simp [hc]

/-- **magefiles that cannot be found: status 1** -/
theorem listing_failure (name : Src → Nat) (runBin : Src → Int) (r : Run Src) (F : Faults) (w : World Src) :
    (F.list = true → (invoke Invoke.Cfg.fixed name runBin r F w).status = 1) ∧
    (F.list = false → F.noFiles = true → (invoke Invoke.Cfg.fixed name runBin r F w).status = 1) := by
  constructor
  · intro h; rw [invoke_eq, earlyFault_skipsMain rfl, if_pos (by simp [h])]
  · intro _ h; rw [invoke_eq, earlyFault_skipsMain rfl, if_pos (by simp [h])]

/-- **magefiles that cannot be parsed or compiled: status 1.**  In the default mode (Go build cache present) and
with `-f` every invocation rebuilds, so a parse, generate or compile failure always surfaces. -/
theorem rebuild_failure (name : Src → Nat) (runBin : Src → Int) (r : Run Src) (F : Faults) (w : World Src)
    (hre : rebuildAlways r = true ∨ r.force = true)
    (hpre : F.list = false ∧ F.noFiles = false ∧ F.exeName = false ∧ F.goEnv = false)
    (hf : F.parse = true ∨ F.gen ≠ .none ∨ F.compile = true) :
    (invoke Invoke.Cfg.fixed name runBin r F w).status = 1 := by
  clear hpre   -- not needed: an earlier fault exits 1 as well
  rw [invoke_eq, if_neg (not_reuses hre)]
  refine iteInduction (motive := fun res : Res Src => res.status = 1) (fun _ => rfl) fun _ => ?_
  by_cases hp : F.parse = true
  · rw [if_pos hp]
  · rw [if_neg hp]
    exact buildAndRun_failed (hf.resolve_left hp)

/-- a binary that cannot be started: status 1 -/
theorem start_failure (runBin : Src → Int) (F : Faults) (w : World Src) (exe : Nat)
    (h : F.start = true) : (runCompiled runBin F w exe).status = 1 := by
  unfold runCompiled; split <;> simp [h]

/-- the whole status space of the front end: 1 (something failed before the program ran), 0 (`-compile`), or the
status of a program found at the computed name — nothing else -/
theorem invoke_status_space (name : Src → Nat) (runBin : Src → Int) (r : Run Src) (F : Faults) (w : World Src) :
    (invoke Invoke.Cfg.fixed name runBin r F w).status = 1 ∨
    (r.compileOut.isSome ∧ (invoke Invoke.Cfg.fixed name runBin r F w).status = 0) ∨
    ∃ s, (invoke Invoke.Cfg.fixed name runBin r F w).status = osStatus (runBin s) := by
  let P (res : Res Src) : Prop :=
    res.status = 1 ∨ (r.compileOut.isSome ∧ res.status = 0) ∨ ∃ s, res.status = osStatus (runBin s)
  exact invoke_cases (P := P) (fail := .inl rfl) (reuse := (runCompiled_status_space ..).imp_right .inr) <|
    buildAndRun_cases (P := P) (failed := fun _ _ _ => .inl rfl) (compiled := fun h => .inr (.inl ⟨h, rfl⟩))
      (startFails := fun _ _ => .inl rfl) (runs := fun _ _ => .inr (.inr ⟨r.src, rfl⟩))

/-- **End to end**: through `mage` (fresh build or cached binary) the status is the one the generated main computes
from the outcome of the targets — the classification of `child_classification` applies verbatim to `mage …`. -/
theorem mage_status_is_child_status (name : Src → Nat) (hinj : ∀ a b, name a = name b → a = b)
    (infoOf : Src → PkgInfo) (outOf : Src → Call → Outcome) (hv : ∀ s, ValidCodes (outOf s))
    (conv : Conv) (E' : Env) (argv' : List String) (r : Run Src) (w : World Src)
    (hs : CacheSound name w) (hc : r.compileOut = none) :
    (invoke Invoke.Cfg.fixed name (fun s => (childMain (infoOf s) conv (outOf s) E' argv').status) r Faults.none w).status =
      (childMain (infoOf r.src) conv (outOf r.src) E' argv').status := by
  rw [front_transparent name hinj _ r w hs hc]
  exact child_status_legal _ _ _ _ _ (hv r.src)

def exInfo : PkgInfo :=
  { funcs := [{ name := "Fail", isError := true, isContext := false, args := [⟨"code", "int"⟩] },
              { name := "Ok", isError := true, isContext := false, args := [] }] }
def exConv : Conv := ⟨fun w => if w = "7" then some 7 else none, fun _ => none, fun _ => none⟩
def exOut : Call → Outcome := fun c => if c.callee = "<current>.Fail" then .err (some 7) else .ok
example : ValidCodes exOut := by
  intro c h
  unfold exOut at h ⊢
  split <;> simp_all [Outcome.status]
example : (childMain exInfo exConv exOut [] ["ok", "fail", "7", "ok"]).status = 7 := by decide +kernel
example : (childMain exInfo exConv exOut [] ["ok", "fail", "7", "ok"]).calls.length = 2 := by decide +kernel
example : (childMain exInfo exConv exOut [] ["-x"]).status = 2 := by decide
example : (childMain exInfo exConv exOut [] ["ok", "nosuch"]).status = 2 := by decide +kernel
example : (childMain exInfo exConv exOut [("MAGEFILE_LIST", "1")] ["--", "ok"]).how = .listed := by decide +kernel
example : frontParse (fun _ => none) [] ["-init", "-h", "x"] = .misuse .severalCommands := by decide +kernel
/-- the command `switch` takes the first matching case only: `-clean -version` is not rejected, it prints the version -/
example : (match frontParse (fun _ => none) [] ["-clean", "-version"] with | .ok _ .version => true | _ => false) = true := by decide +kernel
example : frontParse (fun _ => none) [] ["-goos", "linux", "x"] = .misuse .goosWithoutCompile := by decide +kernel
example : frontParse (fun _ => none) [] ["-t"] = .misuse (.flag (.needsArg "t")) := by decide +kernel
example : CacheSound (fun (s : Nat) => s + 1) ⟨fun _ => .absent, fun p => if p = 4 then some 3 else none⟩ := by
  intro p s h
  simp only [] at h
  split at h
  · cases h; omega
  · cases h

end MageModel.Props.C05
