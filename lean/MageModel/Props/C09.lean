import MageModel.Invoke.StepsLemmas
import MageModel.Invoke.Dirs
/-!
# C09 — mage leaves the magefile directory as it found it
All fault vectors (listing, hashing, `go env`, parsing, each part of writing the main file, `go build`, starting the
binary, the target's own status), all prior states of the generated main file, both cache modes, with and without
`-keep`; `-init` on every directory; `-clean` on every cache listing with a failure at any point.
-/
namespace MageModel.Props.C09
open MageModel.Invoke MageModel.Invoke.Dirs

variable {Src : Type}

/-! ## nothing but the generated main file is ever written in a magefile directory -/

/-- **Other magefile directories are never touched** (every fault vector, every configuration) -/
theorem other_dirs_untouched (cfg : Cfg) (name : Src → Nat) (runBin : Src → Int) (r : Run Src) (F : Faults) (w : World Src)
    (d : Nat) (h : d ≠ r.dir) : (invoke cfg name runBin r F w).world.main d = w.main d :=
  (invoke_touches cfg name runBin r F w).1 d h

/-! ## no generated file remains -/

/-- once generation is reached the file is removed even if one was lying there before -/
theorem no_litter_after_rebuild (name : Src → Nat) (runBin : Src → Int) (r : Run Src) (F : Faults) (w : World Src)
    (hk : r.keep = false) : (buildAndRun Cfg.fixed name runBin r F w).world.main r.dir = .absent :=
  have hd := deferred_main_self (cfg := Cfg.fixed) rfl hk
  buildAndRun_cases (P := fun res => res.world.main r.dir = .absent)
    (failed := fun e w' _ => hd e w') (compiled := fun _ => hd ..) (startFails := fun _ _ => hd ..)
    (runs := fun _ _ => hd ..)

/-- **Without `-keep`, whatever happens, the main file is not there afterwards** — provided it was not there before
(if an interrupted earlier run left one, see `leftover_harmless`): success, target failure, unknown target, every
failing step of the go tool, every failing part of writing the file. -/
theorem no_litter (name : Src → Nat) (runBin : Src → Int) (r : Run Src) (F : Faults) (w : World Src)
    (hk : r.keep = false) (h0 : w.main r.dir = .absent) :
    (invoke Cfg.fixed name runBin r F w).world.main r.dir = .absent :=
  invoke_cases (P := fun res => res.world.main r.dir = .absent) h0
    ((runCompiled_world runBin F w _).symm ▸ h0) (no_litter_after_rebuild name runBin r F w hk)

/-- **with `-keep` exactly the generated main file is added**: after a successful build it is there, complete -/
theorem keep_exact (name : Src → Nat) (runBin : Src → Int) (r : Run Src) (w : World Src) (hk : r.keep = true)
    (hre : rebuildAlways r = true ∨ r.force = true) :
    (invoke Cfg.fixed name runBin r Faults.none w).world.main r.dir = .full := by
  rw [invoke_none rfl, if_neg (not_reuses hre), buildAndRun_none]
  split <;> simp [deferred_keep hk, built_keep hk]

/-! ## a leftover main file, in whatever state, does not change the result of later runs -/

theorem setMain_cache (w : World Src) (d : Nat) (m : MainState) : (w.setMain d m).cache = w.cache :=
  w.setMain_cache d m

/-- **Leftover-independence**: the status, the program started, whether it was rebuilt, and the resulting cache are
the same whatever state an interrupted earlier run left the generated main file in. -/
theorem leftover_harmless (name : Src → Nat) (runBin : Src → Int) (r : Run Src) (F : Faults) (w : World Src) (m : MainState) :
    (invoke Cfg.fixed name runBin r F (w.setMain r.dir m)).status = (invoke Cfg.fixed name runBin r F w).status ∧
    (invoke Cfg.fixed name runBin r F (w.setMain r.dir m)).ran = (invoke Cfg.fixed name runBin r F w).ran ∧
    (invoke Cfg.fixed name runBin r F (w.setMain r.dir m)).built = (invoke Cfg.fixed name runBin r F w).built ∧
    (invoke Cfg.fixed name runBin r F (w.setMain r.dir m)).world.cache = (invoke Cfg.fixed name runBin r F w).world.cache :=
  invoke_cache_only (cfg := Cfg.fixed) name runBin r F (h := rfl) (hl := rfl)

/-! ### witnesses: configurations other than `Cfg.fixed` on which the theorems above fail -/
namespace Pinned
def w0 : World Unit := ⟨fun _ => .absent, fun _ => none⟩
def r0 : Run Unit := { dir := 0, src := () }
/-- D12: with the removal registered only after GenerateMainfile, a failed write leaves a partial file behind -/
example : (invoke ⟨false, true, true⟩ (fun _ => 0) (fun _ => 0) r0 { gen := .write true } w0).world.main 0 = .headless := by decide
/-- D11: without hiding the main file from the listing, a leftover shorter than its constraint line makes every later run fail -/
example : (invoke ⟨true, true, false⟩ (fun _ => 0) (fun _ => 0) r0 Faults.none (w0.setMain 0 .headless)).status = 1 ∧
    (invoke ⟨true, true, false⟩ (fun _ => 0) (fun _ => 0) r0 Faults.none w0).status = 0 := by decide
end Pinned

/-! ## `-init` only ever creates a new magefile -/

/-- no existing entry is changed or removed; the status says whether a file was created -/
theorem init_creates_only (files : List (String × String)) (tpl : String) :
    (∀ p ∈ files, p ∈ (mageInit true files tpl).1) ∧
    ((mageInit true files tpl).2 = 0 ↔ ¬ ∃ p ∈ files, p.1 = "magefile.go") ∧
    ((mageInit true files tpl).2 = 1 → (mageInit true files tpl).1 = files) := by
  have hany : (files.any fun p => p.1 == "magefile.go") = true ↔ ∃ p ∈ files, p.1 = "magefile.go" := by
    simp only [List.any_eq_true, beq_iff_eq]
  unfold mageInit
  by_cases h : (files.any fun p => p.1 == "magefile.go") = true
  · rw [if_pos h]
    exact ⟨fun _ hp => hp, ⟨nofun, fun hn => absurd (hany.mp h) hn⟩, fun _ => rfl⟩
  · rw [if_neg h]
    exact ⟨fun _ hp => List.mem_append_left _ hp, ⟨fun _ => mt hany.mpr h, fun _ => rfl⟩, nofun⟩

/-- witness for `excl := false` (D10): `os.Create` truncates an existing magefile -/
example : (mageInit false [("magefile.go", "precious")] "starter").1 = [("magefile.go", "starter")] := by decide +kernel

/-! ## `-clean` removes only non-directory entries directly in the cache directory -/

/-- `l₁`: the entries the walk got through; `l₂`: the rest, from a failing removal on -/
theorem removeContents_spec (l : List Entry) (k : Nat) : ∃ l₁ l₂, l = l₁ ++ l₂ ∧
    (removeContents l k).1 = l₁.filter (·.isDir) ++ l₂ ∧ ((removeContents l k).2 = true → l₂ = []) := by
  fun_induction removeContents l k with
  | case1 => exact ⟨[], [], rfl, rfl, fun _ => rfl⟩
  | case2 a _ _ hd _ _ hrec ih =>          -- a directory: skipped, stays
    obtain ⟨l₁, l₂, rfl, h1, h2⟩ := ih
    rw [hrec] at h1 h2
    exact ⟨a :: l₁, l₂, rfl, by simp [hd, ← h1], h2⟩
  | case3 a rest => exact ⟨[], a :: rest, rfl, rfl, nofun⟩   -- this removal fails: the walk ends here
  | case4 a _ _ hd _ ih =>                 -- removed
    obtain ⟨l₁, l₂, rfl, h1, h2⟩ := ih
    exact ⟨a :: l₁, l₂, rfl, by simp [hd, h1], h2⟩

theorem clean_keeps_dirs (l : List Entry) (k : Nat) : ∀ e ∈ l, e.isDir = true → e ∈ (removeContents l k).1 := by
  obtain ⟨l₁, l₂, rfl, h, _⟩ := removeContents_spec l k
  intro e he hd
  rw [h]
  simp only [List.mem_append, List.mem_filter] at he ⊢
  exact he.imp_left (⟨·, hd⟩)

/-- nothing appears; what is left is a sub-listing of what was there -/
theorem clean_sublist (l : List Entry) (k : Nat) : (removeContents l k).1.Sublist l := by
  obtain ⟨l₁, l₂, rfl, h, _⟩ := removeContents_spec l k
  exact h ▸ List.filter_sublist.append_right l₂

/-- a successful clean leaves exactly the directories -/
theorem clean_complete (l : List Entry) (k : Nat) (h : (removeContents l k).2 = true) :
    (removeContents l k).1 = l.filter (·.isDir) := by
  obtain ⟨l₁, l₂, rfl, h1, h2⟩ := removeContents_spec l k
  cases h2 h
  simpa using h1

/-- entries below a subdirectory or outside the cache directory are not in the listing at all: the walk is not recursive -/
example : removeContents [⟨"bin1", false⟩, ⟨"sub", true⟩, ⟨"link-to-dir", false⟩, ⟨"bin2", false⟩] 9 =
    ([⟨"sub", true⟩], true) := by decide
example : removeContents [⟨"bin1", false⟩, ⟨"sub", true⟩, ⟨"bin2", false⟩] 1 = ([⟨"sub", true⟩, ⟨"bin2", false⟩], false) := by decide

example : (invoke Cfg.fixed (fun _ => 0) (fun _ => 3) Pinned.r0 { compile := true } Pinned.w0).world.main 0 = .absent := by decide
example : (invoke Cfg.fixed (fun _ => 0) (fun _ => 3) Pinned.r0 Faults.none Pinned.w0).status = 3 := by decide

end MageModel.Props.C09
