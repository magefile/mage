import MageModel.Props.C01
import MageModel.Deps.Live
/-!
# C02 — Deps calls return only after all their dependencies have finished
Every program, every schedule.  `log = later ++ e :: earlier` (newest first).
-/
namespace MageModel.Props.C02
open MageModel.Deps

/-- **Barrier**: when a call returns or panics, every dependency it reached has already *stopped* — no matter
whether this call, an earlier call or a concurrent call started it. -/
theorem barrier (p : Prog) (roots : List Nat) (sched : List Agent)
    (later earlier : List Event) (e : Event) (c : CallId) (reached : List Key)
    (hlog : (reach p roots sched).log = later ++ e :: earlier)
    (he : e = .ret c reached ∨ ∃ code msgs, e = .pan c reached code msgs) :
    ∀ k ∈ reached, ∃ r, Event.stop k r ∈ earlier :=
  reached_stopped hlog he

/-- **Also on the failure path**: a panicking parallel call has waited for *all* listed dependencies, including
the ones that were still running when a sibling failed. -/
theorem barrier_on_failure (p : Prog) (roots : List Nat) (sched : List Agent)
    (later earlier : List Event) (c : CallId) (reached : List Key) (code : Int) (msgs : List String) (cs : CallSpec)
    (hlog : (reach p roots sched).log = later ++ Event.pan c reached code msgs :: earlier)
    (hc : (p c.owner).calls[c.idx]? = some cs) (hpar : cs.serial = false) :
    ∀ k ∈ cs.keys, ∃ r, Event.stop k r ∈ earlier := by
  have h1 := (C01.pan_reached p roots sched later earlier c reached code msgs cs hlog hc).1 hpar
  subst h1
  exact barrier p roots sched later earlier _ c cs.keys hlog (Or.inr ⟨code, msgs, rfl⟩)

/-- **No overlap**: after the call ended, no reached dependency starts (again): code after a Deps call never
overlaps with a dependency named in it. -/
theorem no_start_after_end (p : Prog) (roots : List Nat) (sched : List Agent)
    (later earlier : List Event) (e : Event) (c : CallId) (reached : List Key)
    (hlog : (reach p roots sched).log = later ++ e :: earlier)
    (he : e = .ret c reached ∨ ∃ code msgs, e = .pan c reached code msgs) :
    ∀ k ∈ reached, Event.start k ∉ later := by
  intro k hk hmem
  have := (C01.exactly_once_at_end p roots sched later earlier e c reached hlog he k hk).2
  rw [starts_append] at this
  have hp := starts_pos_iff.mpr hmem
  omega

/-- **… together with everything that dependency itself waited on**: when a call ends, every call that a dependency
it reached had made as owner has ended *before*, and everything *that* call reached has stopped before — so the
barrier extends down the whole dependency tree (apply repeatedly). -/
theorem barrier_transitive (p : Prog) (roots : List Nat) (sched : List Agent)
    (later earlier : List Event) (e : Event) (c : CallId) (reached : List Key)
    (hlog : (reach p roots sched).log = later ++ e :: earlier)
    (he : e = .ret c reached ∨ ∃ code msgs, e = .pan c reached code msgs)
    (k : Key) (hk : k ∈ reached)
    (e' : Event) (c' : CallId) (reached' : List Key) (hown : c'.owner = .key k)
    (he' : e' = .ret c' reached' ∨ ∃ code msgs, e' = .pan c' reached' code msgs)
    (hmem : e' ∈ (reach p roots sched).log) :
    e' ∈ earlier ∧ ∀ k' ∈ reached', ∃ r, Event.stop k' r ∈ earlier := by
  obtain ⟨r, hstop⟩ := barrier p roots sched later earlier e c reached hlog he k hk
  have hlive := reach_live p roots sched
  rw [hlog, List.append_cons] at hlive hmem
  rcases List.mem_append.mp hmem with h | h
  · exact (hlive.no_end_after_stop hstop h hown he').elim
  · refine ⟨h, fun k' hk' => ?_⟩
    obtain ⟨pre, post, rfl⟩ := List.append_of_mem h
    obtain ⟨r', hr'⟩ := barrier p roots sched (later ++ e :: pre) post e' c' reached' (by rw [hlog]; simp) he' k' hk'
    exact ⟨r', mem_of_mem_earlier rfl hr'⟩

/-- the stop of a dependency is logged once its once-cell is done, and the cell never changes afterwards -/
theorem stopped_is_done (p : Prog) (roots : List Nat) (sched : List Agent) (k : Key) (r : Res)
    (h : Event.stop k r ∈ (reach p roots sched).log) : (reach p roots sched).cell k = .done r r :=
  ((reach_inv p roots sched).keys k).stopCell r h

/-! ### the hypothesis matters: without the WaitGroup barrier the call ends while a sibling still runs -/
namespace Mutant
def cfgEarly : Cfg := { Cfg.fixed with waitAll := false }
def prog : Prog := fun o => match o with
  | .root 0 => ⟨[⟨false, [1, 2]⟩], .ok⟩
  | .key 1 => ⟨[], .err 1 "boom"⟩
  | _ => ⟨[], .ok⟩
/-- key 2 is started and held; key 1 fails; the owner panics although key 2 has not stopped -/
def sched : List Agent :=
  [.owner (.root 0), .site (.root 0) 0, .site (.root 0) 1, .owner (.key 1), .site (.root 0) 0, .owner (.root 0)]
theorem panics_early :
    (run cfgEarly prog (State.init [0]) sched).log.head? = some (.pan ⟨.root 0, 0⟩ [1, 2] 1 ["boom"]) ∧
    (run cfgEarly prog (State.init [0]) sched).cell 2 = .running := by decide
/-- under the current source the same schedule leaves the owner waiting -/
theorem fixed_waits : (run Cfg.fixed prog (State.init [0]) sched).body (.root 0) ≠ .ended (panicOut [(1, "boom")]) := by decide
end Mutant

example : Event.pan ⟨.root 0, 0⟩ [1, 2] 1 ["boom"] ∈
    (reach Mutant.prog [0] (Mutant.sched ++ [.owner (.key 2), .site (.root 0) 1, .owner (.root 0)])).log := by decide

/-! non-vacuity of `barrier_transitive`: a root needing 1, which needs 2 — both calls end, in the order the theorem says -/
namespace Nested
def prog : Prog := fun o => match o with
  | .root 0 => ⟨[⟨false, [1]⟩], .ok⟩
  | .key 1 => ⟨[⟨false, [2]⟩], .ok⟩
  | _ => ⟨[], .ok⟩
def sched : List Agent :=
  [.owner (.root 0), .site (.root 0) 0, .owner (.key 1), .site (.key 1) 0, .owner (.key 2), .site (.key 1) 0,
   .owner (.key 1), .owner (.key 1), .site (.root 0) 0, .owner (.root 0)]
example : Event.ret ⟨.root 0, 0⟩ [1] ∈ (reach prog [0] sched).log ∧ Event.ret ⟨.key 1, 0⟩ [2] ∈ (reach prog [0] sched).log := by
  decide
end Nested

end MageModel.Props.C02
