import MageModel.Deps.Reach
/-!
# C01 — a dependency's body runs exactly once

For every program (any graph of owners/keys, repeats inside a call, mixed parallel and serial calls, any
outcomes), every set of root goroutines and **every schedule** (`List Agent`, unbounded).
`log` is newest-first: `later ++ e :: earlier`.
-/
namespace MageModel.Props.C01
open MageModel.Deps

/-- **At most once**: under every schedule the body of every key starts at most once. -/
theorem at_most_once (p : Prog) (roots : List Nat) (sched : List Agent) (k : Key) :
    starts k (reach p roots sched).log ≤ 1 := by
  rw [((reach_inv p roots sched).keys k).once]; split <;> omega

/-- **Exactly once when a call ends**: whenever a Deps-family call returns or panics, every dependency it
reached (all listed ones for a parallel call and for a serial call that returns) has started exactly once, and
before the call ended — whoever started it. -/
theorem exactly_once_at_end (p : Prog) (roots : List Nat) (sched : List Agent)
    (later earlier : List Event) (e : Event) (c : CallId) (reached : List Key)
    (hlog : (reach p roots sched).log = later ++ e :: earlier)
    (he : e = .ret c reached ∨ ∃ code msgs, e = .pan c reached code msgs) :
    ∀ k ∈ reached, starts k earlier = 1 ∧ starts k (later ++ [e]) = 0 := by
  -- `k` stopped in `earlier`, so it started there; one start in all, so none in `later ++ [e]`
  intro k hk
  obtain ⟨r, hr⟩ := reached_stopped hlog he k hk
  have hgood : GoodLog p earlier := (GoodLog.at (hlog ▸ (reach_inv p roots sched).good)).2
  have hpos := starts_pos_iff.mpr (hgood.start_of_stop hr)
  have htot := at_most_once p roots sched k
  rw [hlog, List.append_cons, starts_append] at htot
  omega

/-- a returning call reached every function it listed -/
theorem ret_reached_all (p : Prog) (roots : List Nat) (sched : List Agent)
    (later earlier : List Event) (c : CallId) (reached : List Key) (cs : CallSpec)
    (hlog : (reach p roots sched).log = later ++ Event.ret c reached :: earlier)
    (hc : (p c.owner).calls[c.idx]? = some cs) : reached = cs.keys :=
  (reach_good hlog).2 cs hc

/-- a panicking parallel call reached every function it listed; a serial one a prefix of its list -/
theorem pan_reached (p : Prog) (roots : List Nat) (sched : List Agent)
    (later earlier : List Event) (c : CallId) (reached : List Key) (code : Int) (msgs : List String) (cs : CallSpec)
    (hlog : (reach p roots sched).log = later ++ Event.pan c reached code msgs :: earlier)
    (hc : (p c.owner).calls[c.idx]? = some cs) :
    (cs.serial = false → reached = cs.keys) ∧ ∃ n, reached = cs.keys.take n :=
  (reach_good hlog).2.2 cs hc

/-- **No conflation**: the once-cell of one key is never touched by the execution of another: a key whose
body never started is still absent — whatever other keys did. -/
theorem distinct_keys_independent (p : Prog) (roots : List Nat) (sched : List Agent) (k : Key)
    (h : starts k (reach p roots sched).log = 0) : (reach p roots sched).cell k = .absent := by
  have := ((reach_inv p roots sched).keys k).once
  rw [h] at this
  by_cases hc : (reach p roots sched).cell k = .absent
  · exact hc
  · simp [hc] at this

/-- With `-v` one line `Running dependency: <name>` is printed by the once-body right before the function runs,
i.e. exactly at the `start` events: at most one per key under every schedule. -/
theorem verbose_line_once (p : Prog) (roots : List Nat) (sched : List Agent) (k : Key) :
    ((reach p roots sched).log.filter (· == Event.start k)).length ≤ 1 := by
  have := at_most_once p roots sched k
  simpa [starts, List.count_eq_countP, List.countP_eq_length_filter] using this

/-! ### the hypotheses matter: without the atomic lookup-or-insert the body can start twice -/
namespace Mutant
def cfgRacy : Cfg := { Cfg.fixed with atomicOnce := false }
def prog : Prog := fun o => match o with
  | .root 0 => ⟨[⟨false, [7]⟩], .ok⟩
  | .root 1 => ⟨[⟨false, [7]⟩], .ok⟩
  | _ => ⟨[], .ok⟩
def sched : List Agent :=
  [.owner (.root 0), .owner (.root 1), .site (.root 0) 0, .site (.root 1) 0, .site (.root 0) 0, .site (.root 1) 0]
/-- two requesters both see the key absent, both run the body -/
theorem twice : starts 7 (run cfgRacy prog (State.init [0, 1]) sched).log = 2 := by decide
/-- the same schedule under the current source: once -/
theorem fixed_once : starts 7 (run Cfg.fixed prog (State.init [0, 1]) sched).log = 1 := by decide
end Mutant

/-! ### non-vacuity: a concrete run that reaches an end event -/
example : Event.ret ⟨.root 0, 0⟩ [7] ∈ (reach Mutant.prog [0, 1]
    (Mutant.sched ++ [.owner (.key 7), .site (.root 0) 0, .site (.root 1) 0, .owner (.root 0), .owner (.root 1)])).log := by
  decide

end MageModel.Props.C01
