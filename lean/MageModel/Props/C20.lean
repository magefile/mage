import MageModel.Invoke.Multi
import MageModel.Invoke.StepsLemmas
/-!
# C20 — concurrent mage invocations do not interfere with each other
Any number of processes, every interleaving of their steps, both cache modes, `-f`, identical or different contents,
one shared cache directory.
-/
namespace MageModel.Props.C20
open MageModel.Invoke MageModel.Invoke.Multi

variable {Src : Type}

/-- what a process produces when it runs alone (fault-free): the status of the program built from its own sources -/
def soloResult (runBin : Src → Int) (r : Run Src) : Int × Option Src := (osStatus (runBin r.src), some r.src)

/-- the per-process part of the invariant: each clause is what the next step at that `pc` reads.  Under another process's
step `.compile` survives because the directories differ, `.remove`/`.runBuilt` because `name` is injective, `.runReuse`
because a cache entry is overwritten but never removed. -/
def PInv (name : Src → Nat) (runBin : Src → Int) (w : World Src) (p : Proc Src) : Prop :=
  match p.pc with
  | .compile => w.main p.r.dir = .full
  | .remove => w.cache (name p.r.src) = some p.r.src
  | .runBuilt => w.cache (name p.r.src) = some p.r.src
  | .runReuse => (w.cache (name p.r.src)).isSome = true
  | .fin => p.res = some (soloResult runBin p.r)
  | _ => True

/-- what a step of process `q` may change in the world: only the main file of its own directory, and the cache entry
at the name of its own sources, which it can only set to those sources -/
def Frame (name : Src → Nat) (q : Proc Src) (w w' : World Src) : Prop :=
  (∀ d, d ≠ q.r.dir → w'.main d = w.main d) ∧
  (∀ p, w'.cache p = w.cache p ∨ (p = name q.r.src ∧ w'.cache p = some q.r.src))

section
variable (name : Src → Nat) (runBin : Src → Int) (r : Run Src) (res : Option (Int × Option Src)) (w : World Src)
theorem step_create : step name runBin ⟨r, .create, res⟩ w = (⟨r, .write, res⟩, w.setMain r.dir .headless) := rfl
theorem step_write : step name runBin ⟨r, .write, res⟩ w = (⟨r, .compile, res⟩, w.setMain r.dir .full) := rfl
theorem step_remove : step name runBin ⟨r, .remove, res⟩ w = (⟨r, .runBuilt, res⟩, cleanup r w) := rfl
theorem step_fin : step name runBin ⟨r, .fin, res⟩ w = (⟨r, .fin, res⟩, w) := rfl
end

section
variable {name : Src → Nat} {runBin : Src → Int} {r : Run Src} {res : Option (Int × Option Src)} {w : World Src} {s : Src}
theorem step_init_reuse (h : (!rebuildAlways r && (w.cache (name r.src)).isSome && !r.force) = true) :
    step name runBin ⟨r, .init, res⟩ w = (⟨r, .runReuse, res⟩, w) := by simp [step, h]
theorem step_init_build (h : ¬ (!rebuildAlways r && (w.cache (name r.src)).isSome && !r.force) = true) :
    step name runBin ⟨r, .init, res⟩ w = (⟨r, .create, res⟩, w) := by simp [step, h]
theorem step_compile_ok (h : w.main r.dir = .full) :
    step name runBin ⟨r, .compile, res⟩ w = (⟨r, .remove, res⟩, w.setExe (name r.src) r.src) := by simp [step, h]
theorem step_runBuilt_some (h : w.cache (name r.src) = some s) :
    step name runBin ⟨r, .runBuilt, res⟩ w = (⟨r, .fin, some (osStatus (runBin s), some s)⟩, cleanup r w) := by simp [step, h]
theorem step_runReuse_some (h : w.cache (name r.src) = some s) :
    step name runBin ⟨r, .runReuse, res⟩ w = (⟨r, .fin, some (osStatus (runBin s), some s)⟩, w) := by simp [step, h]
theorem step_runReuse_none (h : w.cache (name r.src) = none) :
    step name runBin ⟨r, .runReuse, res⟩ w = (⟨r, .fin, some (1, none)⟩, w) := by simp [step, h]
end

theorem frame_iff_touches {name : Src → Nat} {q : Proc Src} {w w' : World Src} :
    Frame name q w w' ↔ Touches q.r.dir (name q.r.src) q.r.src w w' := Iff.rfl

theorem step_touches (name : Src → Nat) (runBin : Src → Int) (q : Proc Src) (w : World Src) :
    Touches q.r.dir (name q.r.src) q.r.src w (step name runBin q w).2 ∧ (step name runBin q w).1.r = q.r := by
  obtain ⟨r, pc, res⟩ := q
  cases pc with
  | init | runReuse => simp only [step]; split <;> exact ⟨Touches.refl, rfl⟩
  | create | write => exact ⟨Touches.setMain _, rfl⟩
  | compile =>
    simp only [step]; split
    · exact ⟨Touches.setExe, rfl⟩
    · exact ⟨Touches.of_cleanup r, rfl⟩
  | remove => exact ⟨Touches.of_cleanup r, rfl⟩
  | runBuilt => simp only [step]; split <;> exact ⟨Touches.of_cleanup r, rfl⟩
  | fin => exact ⟨Touches.refl, rfl⟩

/-- the invariant of another process (different directory) survives a step of `q` -/
theorem pinv_frame (name : Src → Nat) (hinj : ∀ a b, name a = name b → a = b) (runBin : Src → Int) (q p : Proc Src)
    (w w' : World Src) (hf : Frame name q w w') (hd : p.r.dir ≠ q.r.dir) (h : PInv name runBin w p) : PInv name runBin w' p := by
  obtain ⟨hm, hc⟩ := hf
  obtain ⟨r, pc, res⟩ := p
  -- an entry at the name of `p`'s sources either stays or becomes `q`'s sources, which then are `p`'s
  have hcache : w.cache (name r.src) = some r.src → w'.cache (name r.src) = some r.src := fun hs =>
    (hc (name r.src)).elim (· ▸ hs) fun ⟨h1, h2⟩ => hinj _ _ h1 ▸ h2
  cases pc with
  | compile => exact (hm _ hd).trans h
  | remove | runBuilt => exact hcache h
  | runReuse => exact (hc (name r.src)).elim (fun h1 => (congrArg Option.isSome h1).trans h) fun h2 => congrArg Option.isSome h2.2
  | _ => exact h

theorem pinv_step {name : Src → Nat} (hinj : ∀ a b, name a = name b → a = b) {runBin : Src → Int} {q : Proc Src}
    {w : World Src} (hs : CacheSound name w) (h : PInv name runBin w q) :
    PInv name runBin (step name runBin q w).2 (step name runBin q w).1 := by
  obtain ⟨r, pc, res⟩ := q
  cases pc with
  | init =>
    by_cases hc : (!rebuildAlways r && (w.cache (name r.src)).isSome && !r.force) = true
    · rw [step_init_reuse hc]
      simp only [Bool.and_eq_true] at hc
      exact hc.1.2
    · rw [step_init_build hc]; trivial
  | create => trivial
  | write => exact World.setMain_main_same ..
  | compile => rw [step_compile_ok h]; exact World.setExe_cache_same ..
  | remove => show (cleanup r w).cache _ = _; rw [cleanup_cache]; exact h
  | runBuilt => rw [step_runBuilt_some h]; rfl
  | runReuse =>
    obtain ⟨s, hsome⟩ := Option.isSome_iff_exists.mp h
    rw [step_runReuse_some hsome, hs.lookup hinj hsome]; rfl
  | fin => exact h

/-- the system invariant -/
def Inv (name : Src → Nat) (runBin : Src → Int) (s : Sys Src) : Prop :=
  CacheSound name s.world ∧ ∀ i, PInv name runBin s.world (s.procs i)

theorem sysStep_procs_self (name : Src → Nat) (runBin : Src → Int) (s : Sys Src) (i : Nat) :
    (sysStep name runBin s i).procs i = (step name runBin (s.procs i) s.world).1 := by
  simp [sysStep]

theorem sysStep_procs_other {name : Src → Nat} {runBin : Src → Int} {s : Sys Src} {i j : Nat} (h : j ≠ i) :
    (sysStep name runBin s i).procs j = s.procs j := by
  simp [sysStep, h]

theorem inv_step (name : Src → Nat) (hinj : ∀ a b, name a = name b → a = b) (runBin : Src → Int) (s : Sys Src)
    (hd : ∀ i j, i ≠ j → (s.procs i).r.dir ≠ (s.procs j).r.dir) (h : Inv name runBin s) (i : Nat) :
    Inv name runBin (sysStep name runBin s i) ∧
    (∀ j, ((sysStep name runBin s i).procs j).r = (s.procs j).r) := by
  obtain ⟨hs, hp⟩ := h
  have hfr := step_touches name runBin (s.procs i) s.world
  refine ⟨⟨hs.touches hfr.1, fun j => ?_⟩, fun j => ?_⟩
  · by_cases hji : j = i
    · subst hji
      rw [sysStep_procs_self]
      exact pinv_step hinj hs (hp j)
    · rw [sysStep_procs_other hji]
      exact pinv_frame name hinj runBin (s.procs i) (s.procs j) _ _ (frame_iff_touches.mpr hfr.1) (hd j i hji) (hp j)
  · by_cases hji : j = i
    · subst hji; rw [sysStep_procs_self]; exact hfr.2
    · rw [sysStep_procs_other hji]

theorem inv_runSched {name : Src → Nat} (hinj : ∀ a b, name a = name b → a = b) {runBin : Src → Int} (sched : List Nat)
    {s : Sys Src} (hd : ∀ i j, i ≠ j → (s.procs i).r.dir ≠ (s.procs j).r.dir) (h : Inv name runBin s) :
    Inv name runBin (runSched name runBin s sched) ∧ ∀ j, ((runSched name runBin s sched).procs j).r = (s.procs j).r := by
  induction sched generalizing s with
  | nil => exact ⟨h, fun _ => rfl⟩
  | cons i rest ih =>
    obtain ⟨h1, h2⟩ := inv_step name hinj runBin s hd h i
    obtain ⟨h3, h4⟩ := ih (fun a b hab => by rw [h2 a, h2 b]; exact hd a b hab) h1
    exact ⟨h3, fun j => (h4 j).trans (h2 j)⟩

/-- **Isolation.**  Processes in pairwise different directories sharing one cache directory: under every schedule,
every process that finishes has produced exactly what it produces alone — also when several of them have identical
magefiles (one cache name), in both cache modes and with `-f`. -/
theorem isolated (name : Src → Nat) (hinj : ∀ a b, name a = name b → a = b) (runBin : Src → Int) (s0 : Sys Src)
    (hd : ∀ i j, i ≠ j → (s0.procs i).r.dir ≠ (s0.procs j).r.dir) (h0 : Inv name runBin s0) (sched : List Nat) :
    ∀ i, ((runSched name runBin s0 sched).procs i).pc = .fin →
      ((runSched name runBin s0 sched).procs i).res = some (soloResult runBin (s0.procs i).r) := by
  intro i hfin
  obtain ⟨⟨_, hp⟩, hr⟩ := inv_runSched hinj sched hd h0
  have := hp i
  simp only [PInv, hfin] at this
  rw [this, hr i]

theorem inv_init (name : Src → Nat) (runBin : Src → Int) (rs : Nat → Run Src) (w : World Src) (hs : CacheSound name w) :
    Inv name runBin ⟨fun i => { r := rs i }, w⟩ := ⟨hs, fun _ => trivial⟩

/-- no step blocks: every step of an unfinished process brings it strictly closer to the end, whatever the world
looks like — a process scheduled six times has finished -/
def rank : Pc → Nat
  | .init => 6 | .create => 5 | .write => 4 | .compile => 3 | .remove => 2 | .runBuilt => 1 | .runReuse => 1 | .fin => 0

theorem rank_decreases (name : Src → Nat) (runBin : Src → Int) (p : Proc Src) (w : World Src) (h : p.pc ≠ .fin) :
    rank (step name runBin p w).1.pc < rank p.pc := by
  obtain ⟨r, pc, res⟩ := p
  cases pc with
  | fin => exact absurd rfl h
  | init | compile | runBuilt | runReuse => simp only [step]; split <;> simp [rank]
  | create | write | remove => simp [step, rank]

/-! ## one process alone: the interleaving machine refines `invoke` -/

def iterStep (name : Src → Nat) (runBin : Src → Int) : Nat → Proc Src × World Src → Proc Src × World Src
  | 0, x => x
  | k+1, x => iterStep name runBin k (step name runBin x.1 x.2)

theorem runSched_replicate (name : Src → Nat) (runBin : Src → Int) (i k : Nat) (s : Sys Src) :
    ((runSched name runBin s (List.replicate k i)).procs i, (runSched name runBin s (List.replicate k i)).world) =
      iterStep name runBin k (s.procs i, s.world) := by
  induction k generalizing s with
  | zero => rfl
  | succ k ih =>
    -- one `sysStep` first (by `rfl`), then `ih`; left: process `i` and the world of `sysStep s i` are `step`'s
    exact (ih (sysStep name runBin s i)).trans (by rw [sysStep_procs_self]; rfl)

/-- one process alone: the interleaving machine computes what `invoke` (the function the other properties are about) computes -/
theorem solo_refines_invoke (name : Src → Nat) (runBin : Src → Int) (r : Run Src) (w : World Src) (hc : r.compileOut = none) :
    ((runSched name runBin ⟨fun _ => ⟨r, .init, none⟩, w⟩ (List.replicate 6 0)).procs 0).res =
      some ((invoke Cfg.fixed name runBin r Faults.none w).status, (invoke Cfg.fixed name runBin r Faults.none w).ran) := by
  have hrs := congrArg Prod.fst (runSched_replicate name runBin 0 6 ⟨fun _ => ⟨r, .init, none⟩, w⟩)
  dsimp only at hrs
  rw [hrs, invoke_none rfl, reuses_noCompile hc, exePath_eq_name hc]
  split
  · rename_i h
    -- done after two of the six steps; `step_fin` pads the rest
    simp only [iterStep, step_init_reuse h]
    cases hcache : w.cache (name r.src) with
    | none => simp [runCompiled, hcache, step_runReuse_none hcache, step_fin]
    | some s => simp [runCompiled_hit hcache, step_runReuse_some hcache, step_fin, Faults.none]
  · rename_i h
    have full : ((w.setMain r.dir .headless).setMain r.dir .full).main r.dir = .full := World.setMain_main_same ..
    have installed : (cleanup r (((w.setMain r.dir .headless).setMain r.dir .full).setExe (name r.src) r.src)).cache
        (name r.src) = some r.src := by
      rw [cleanup_cache]; exact World.setExe_cache_same ..
    simp only [iterStep, step_init_build h, step_create, step_write, step_compile_ok full, step_remove,
      step_runBuilt_some installed]
    simp [buildAndRun_none, hc]

/-! ## the same directory: interference (known finding C20:same-directory, D19) -/
namespace SameDir
def w0 : World Unit := ⟨fun _ => .absent, fun _ => none⟩
def r : Run Unit := { dir := 0, src := () }
def s0 : Sys Unit := ⟨fun _ => { r := r }, w0⟩
/-- two invocations in one directory: the second one's `os.Create` truncates the generated file between the first
one's write and its `go build`; the first fails although alone it succeeds -/
theorem interferes :
    ((runSched (fun _ => 0) (fun _ => 0) s0 [0, 0, 0, 1, 1, 0]).procs 0).res = some (1, none) ∧
    soloResult (fun _ => 0) r = (0, some ()) := by decide
/-- … and also when the second one's removal hits the window -/
theorem interferes_by_removal :
    ((runSched (fun _ => 0) (fun _ => 0) s0 [0, 0, 0, 1, 1, 1, 1, 1, 0]).procs 0).res = some (1, none) := by decide
end SameDir

/-- non-vacuity: two directories, identical contents, hash mode, interleaved — both succeed with their solo result -/
example :
    let s : Sys Nat := ⟨fun i => { r := { dir := i, src := 7, hashFast := true } }, ⟨fun _ => .absent, fun _ => none⟩⟩
    let e := runSched (fun s => s) (fun _ => 3) s [0, 1, 0, 1, 0, 1, 1, 0, 0, 1, 0, 1, 0, 1]
    (e.procs 0).res = some (3, some 7) ∧ (e.procs 1).res = some (3, some 7) := by decide

end MageModel.Props.C20
