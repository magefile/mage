import MageModel.Props.C01
import MageModel.Props.C03
/-!
# C13 — SerialDeps runs dependencies one at a time in the order given
`req c j k` is the (ghost) event "the goroutine for element `j` of call `c` is created"; in the serial forms this
is the `runDeps(ctx, funcs[j:j+1])` of the loop.  Every program, every schedule.
-/
namespace MageModel.Props.C13
open MageModel.Deps

/-- **Order and no overlap**: element `j+1` of a serial call is requested only after element `j` has *stopped
successfully* — whoever ran it (this call, an earlier one, or a concurrent parallel call that had it in flight). -/
theorem serial_order (p : Prog) (roots : List Nat) (sched : List Agent)
    (later earlier : List Event) (c : CallId) (j : Nat) (k : Key) (cs : CallSpec)
    (hlog : (reach p roots sched).log = later ++ Event.req c (j+1) k :: earlier)
    (hc : (p c.owner).calls[c.idx]? = some cs) (hser : cs.serial = true) :
    ∃ kp, cs.keys[j]? = some kp ∧ Event.stop kp none ∈ earlier :=
  reach_good hlog cs hc hser j rfl

/-- **Nothing after the first failure**: if element `j` failed, element `j+1` is never requested. -/
theorem serial_stops_on_failure (p : Prog) (roots : List Nat) (sched : List Agent)
    (c : CallId) (j : Nat) (k kp : Key) (f : Int × String) (cs : CallSpec)
    (hc : (p c.owner).calls[c.idx]? = some cs) (hser : cs.serial = true) (hkp : cs.keys[j]? = some kp)
    (hfail : Event.stop kp (some f) ∈ (reach p roots sched).log) :
    Event.req c (j+1) k ∉ (reach p roots sched).log := by
  intro hreq
  obtain ⟨later, earlier, hsplit⟩ := List.append_of_mem hreq
  obtain ⟨kp', h1, h2⟩ := serial_order p roots sched later earlier c j k cs hsplit hc hser
  cases hkp.symm.trans h1
  cases C03.outcome_unique p roots sched kp _ _ hfail (mem_of_mem_earlier hsplit h2)

/-- a serial call that returns has run its whole list; one that panics reached exactly a prefix of it -/
theorem serial_reached_prefix (p : Prog) (roots : List Nat) (sched : List Agent)
    (later earlier : List Event) (c : CallId) (reached : List Key) (code : Int) (msgs : List String) (cs : CallSpec)
    (hlog : (reach p roots sched).log = later ++ Event.pan c reached code msgs :: earlier)
    (hc : (p c.owner).calls[c.idx]? = some cs) : ∃ n, reached = cs.keys.take n :=
  (C01.pan_reached p roots sched later earlier c reached code msgs cs hlog hc).2

/-- the once-only rule still applies inside serial calls (instance of C01) -/
theorem serial_once (p : Prog) (roots : List Nat) (sched : List Agent) (k : Key) :
    starts k (reach p roots sched).log ≤ 1 := C01.at_most_once p roots sched k

/-! ### the hypothesis matters: running the whole list per iteration overlaps the members -/
namespace Mutant
def cfgAll : Cfg := { Cfg.fixed with serialOneByOne := false }
def prog : Prog := fun o => match o with
  | .root 0 => ⟨[⟨true, [1, 2]⟩], .ok⟩
  | _ => ⟨[], .ok⟩
def sched : List Agent := [.owner (.root 0), .site (.root 0) 0, .site (.root 0) 1]
/-- both members are running at the same time -/
theorem overlap : (run cfgAll prog (State.init [0]) sched).cell 1 = .running ∧
    (run cfgAll prog (State.init [0]) sched).cell 2 = .running := by decide
theorem fixed_no_overlap : (run Cfg.fixed prog (State.init [0]) (sched ++ [.owner (.root 0), .site (.root 0) 0, .site (.root 0) 1])).cell 2 = .absent := by decide
end Mutant

example : Event.req ⟨.root 0, 0⟩ 1 2 ∈ (reach Mutant.prog [0]
    [.owner (.root 0), .owner (.root 0), .site (.root 0) 0, .owner (.key 1), .site (.root 0) 0, .owner (.root 0)]).log := by decide

end MageModel.Props.C13
