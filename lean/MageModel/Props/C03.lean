import MageModel.Deps.Exit
import MageModel.Deps.Monitor
import MageModel.Deps.Live
/-!
# C03 — a failed dependency fails every dependent, always
Every program, every failure kind of every node, every schedule — requesters before, while and after the
failing execution are just different schedules.
-/
namespace MageModel.Props.C03
open MageModel.Deps

/-- **A call returns normally only if every dependency it listed succeeded.** -/
theorem returns_only_if_all_ok (p : Prog) (roots : List Nat) (sched : List Agent)
    (later earlier : List Event) (c : CallId) (reached : List Key)
    (hlog : (reach p roots sched).log = later ++ Event.ret c reached :: earlier) :
    ∀ k ∈ reached, Event.stop k none ∈ earlier :=
  (reach_good hlog).1

/-- a dependency has one outcome for everybody: two `stop` records of one key agree -/
theorem outcome_unique (p : Prog) (roots : List Nat) (sched : List Agent) (k : Key) (r r' : Res)
    (h : Event.stop k r ∈ (reach p roots sched).log) (h' : Event.stop k r' ∈ (reach p roots sched).log) : r = r' := by
  have a := ((reach_inv p roots sched).keys k).stopCell r h
  have b := ((reach_inv p roots sched).keys k).stopCell r' h'
  rw [a] at b; cases b; rfl

/-- **A failed dependency fails every dependent**: if a reached dependency failed — whenever that happened
relative to this call — the call does not return: its end event is a panic. -/
theorem failed_propagates (p : Prog) (roots : List Nat) (sched : List Agent)
    (later earlier : List Event) (c : CallId) (reached : List Key) (k : Key) (f : Int × String)
    (hlog : (reach p roots sched).log = later ++ Event.ret c reached :: earlier)
    (hk : k ∈ reached) : Event.stop k (some f) ∉ (reach p roots sched).log := by
  intro hfail
  have hok := mem_of_mem_earlier hlog (returns_only_if_all_ok p roots sched later earlier c reached hlog k hk)
  cases outcome_unique p roots sched k _ _ hfail hok

/-- **… (transitively)**: a call returns normally only if, one level down as well, no call made by a dependency it
reached has panicked — a dependency whose own `Deps` call failed has failed itself (`PanStops`), and a returned call
reached only dependencies that succeeded.  Apply repeatedly for the whole tree. -/
theorem returns_only_if_all_ok_transitive (p : Prog) (roots : List Nat) (sched : List Agent)
    (later earlier : List Event) (c : CallId) (reached : List Key)
    (hlog : (reach p roots sched).log = later ++ Event.ret c reached :: earlier)
    (k : Key) (hk : k ∈ reached) (c' : CallId) (hown : c'.owner = .key k) (reached' : List Key) (code : Int) (msgs : List String) :
    Event.pan c' reached' code msgs ∉ (reach p roots sched).log := by
  intro hpan
  obtain ⟨f, hf⟩ := reach_panStops p roots sched c' reached' code msgs k hpan hown
  exact failed_propagates p roots sched later earlier c reached k f hlog hk hf

/-- **What the propagated failure carries**: there is a non-empty list `fs` of (status, message) pairs,
exactly the failures of the reached dependencies, whose messages are the panic's message lines and whose combined
status is the panic's status. -/
theorem panic_carries (p : Prog) (roots : List Nat) (sched : List Agent)
    (later earlier : List Event) (c : CallId) (reached : List Key) (code : Int) (msgs : List String)
    (hlog : (reach p roots sched).log = later ++ Event.pan c reached code msgs :: earlier) :
    ∃ fs : List (Int × String), fs ≠ [] ∧ code = exitOf fs ∧ msgs = fs.map Prod.snd ∧
      (∀ f ∈ fs, ∃ k ∈ reached, Event.stop k (some f) ∈ earlier) ∧
      (∀ k ∈ reached, ∀ f, Event.stop k (some f) ∈ earlier → f ∈ fs) :=
  (reach_good hlog).2.1

/-- **Status**: all failures carry the same non-zero status ⇒ that status; different non-zero statuses ⇒ 1. -/
theorem panic_status (p : Prog) (roots : List Nat) (sched : List Agent)
    (later earlier : List Event) (c : CallId) (reached : List Key) (code : Int) (msgs : List String)
    (hlog : (reach p roots sched).log = later ++ Event.pan c reached code msgs :: earlier) :
    ∃ fs : List (Int × String), ∃ hne : fs ≠ [], msgs = fs.map Prod.snd ∧
      ((∀ f ∈ fs, f.1 ≠ 0) → code = if fs.all (fun f => f.1 == (fs.head hne).1) then (fs.head hne).1 else 1) := by
  obtain ⟨fs, hne, hcode, hmsgs, _, _⟩ := panic_carries p roots sched later earlier c reached code msgs hlog
  exact ⟨fs, hne, hmsgs, fun h => by rw [hcode]; exact status_rule fs hne h⟩

/-- what each failure kind is worth: returned error / panic with an error → its status; other panic value → 1 -/
theorem failure_kinds (c : Int) (m : String) :
    (Out.err c m).seen = some (c, m) ∧ (Out.panicErr c m).seen = some (c, m) ∧ (Out.panicVal m).seen = some (1, m) ∧
    Out.ok.seen = none := by simp [Out.seen]

/-- the current source remembers every failure kind (this is the D1 fix) -/
theorem fixed_stores_all (o : Out) : Cfg.fixed.stored o = o.seen := stored_fixed o

/-- the monitor's `specExit` (the property's wording) is the implementation's combination rule whenever no
failure carries status 0 -/
theorem spec_status_agrees (fs : List (Int × String)) (h : ∀ f ∈ fs, f.1 ≠ 0) : specExit fs = exitOf fs := by
  cases fs with
  | nil => rfl
  | cons a rest =>
    rw [status_rule (a :: rest) (by simp) h]
    simp only [specExit, List.head_cons, List.all_cons, beq_self_eq_true, Bool.true_and]

/-! ### the pinned tree (D1): a dependency that panicked is remembered as succeeded -/
namespace Pinned
def cfg : Cfg := { Cfg.fixed with storePanic := false }
/-- root 0 → mid(1) → leaf(2, returns an error); later root 1 → mid.  mid *panics* (its Deps call failed). -/
def prog : Prog := fun o => match o with
  | .root 0 => ⟨[⟨false, [1]⟩], .ok⟩
  | .root 1 => ⟨[⟨false, [1]⟩], .ok⟩
  | .key 1 => ⟨[⟨false, [2]⟩], .ok⟩
  | .key 2 => ⟨[], .err 1 "leaf failed"⟩
  | _ => ⟨[], .ok⟩
def sched : List Agent :=
  [.owner (.root 0), .site (.root 0) 0, .owner (.key 1), .site (.key 1) 0, .owner (.key 2), .site (.key 1) 0,
   .owner (.key 1), .site (.root 0) 0, .owner (.root 0),
   -- the late requester
   .owner (.root 1), .site (.root 1) 0, .owner (.root 1)]
/-- on the pinned tree the second dependent *returns* -/
theorem late_requester_returns :
    (run cfg prog (State.init [0, 1]) sched).log.head? = some (.ret ⟨.root 1, 0⟩ [1]) := by decide
/-- on the current source it panics with the same message and status as the first -/
theorem late_requester_fixed :
    (run Cfg.fixed prog (State.init [0, 1]) sched).log.head? = some (.pan ⟨.root 1, 0⟩ [1] 1 ["leaf failed"]) := by decide
end Pinned

/-! ### known finding D2: `mg.Fatal(0, …)` counts as "no failure" in the status combination -/
namespace KnownFinding
theorem fatal_zero_ignored : exitOf [(0, "a"), (5, "b")] = 5 ∧ specExit [(0, "a"), (5, "b")] = 1 ∧
    exitOf [(0, "a"), (0, "b")] = 0 := by decide
end KnownFinding

example : exitOf [(7, "x"), (7, "y")] = 7 ∧ exitOf [(7, "x"), (9, "y")] = 1 := by decide
example : Event.pan ⟨.root 0, 0⟩ [1] 1 ["leaf failed"] ∈ (reach Pinned.prog [0, 1] Pinned.sched).log := by decide

end MageModel.Props.C03
