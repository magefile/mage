import MageModel.Fn.Main
import MageModel.Fn.JsonInj
/-!
# C14 — mg.F accepts exactly well-typed argument lists and calls faithfully
All signatures (any parameter and result types, namespace receiver, context, variadic tail) × all argument lists
(any length, any dynamic types incl. untyped nil and look-alike types), unbounded.  The specification is `WellTyped`
(Fn/Spec.lean) and `conforms` (Fn/CheckF.lean).
-/
namespace MageModel.Props.C14
open MageModel.Fn

/-- **mg.F accepts exactly the well-typed argument lists** (all functions reflect can produce). -/
theorem checkF_ok_iff (s : Sig) (hwf : s.WF) (args : List ArgTy) :
    (∃ r, checkF (.func s) args = .ok r) ↔ WellTyped s args :=
  ⟨fun ⟨_, h⟩ => ((checkF_ok_flags_iff hwf).mp h).1, fun h => ⟨_, (checkF_ok_flags_iff hwf).mpr ⟨h, rfl⟩⟩⟩

/-- a non-function (nil, or any value whose kind is not Func) is rejected at construction time -/
theorem notFunc_rejected (args : List ArgTy) : checkF .notFunc args = .error .notFunc := rfl

/-- the flags `F` uses to assemble the call are the declared receiver and context -/
theorem checkF_flags (s : Sig) (args : List ArgTy) (r : Bool × Bool) (h : checkF (.func s) args = .ok r)
    (hne : s.ins ≠ []) : r = ((stripPrefix s.ins).1, (stripPrefix s.ins).2.1) :=
  -- no `WF` at hand, so not from `checkF_ok_flags_iff`: only the `ok` case of `checkF_cases` returns a result
  checkF_cases (P := fun res => res = .ok r → r = _) (h0 := fun _ => hne) (reject := fun _ _ _ => nofun)
    (loop := fun _ _ _ => nofun) (ok := fun _ _ _ h => (Except.ok.inj h).symm) h

/-- **Faithful call**: the vector `F` passes to `reflect.Value.Call` — receiver value, context, then exactly the
given arguments in order — satisfies Go's call rule for the function, so running an accepted `mg.F` never raises a
type error later. -/
theorem call_conforms (s : Sig) (hwf : s.WF) (args : List ArgTy) (r : Bool × Bool)
    (h : checkF (.func s) args = .ok r) (hne : s.ins ≠ []) : conforms s.ins s.variadic (callVec r args) := by
  rw [checkF_flags s args r h hne, callVec_flags]
  have hwt := (checkF_ok_iff s hwf args).mp ⟨r, h⟩
  have hd := (stripPrefix_decomp s.ins).1
  unfold conforms
  cases hv : s.variadic
  · have h2 := hwt.2
    rw [if_neg (Bool.eq_false_iff.mp hv)] at h2
    rw [h2.2, ← List.map_append, ← hd]
    rfl
  · obtain ⟨fixed, e, hr⟩ := rest_of_variadic hwf hv
    obtain ⟨_, _, tail, ha, ht⟩ := (wellTyped_variadic_iff hv hr).mp hwt
    rw [hr, ← List.append_assoc] at hd
    refine ⟨pfx s.ins ++ fixed, e, hd, ?_, ?_⟩
    · rw [ha, ← List.append_assoc, ← List.map_append, List.take_left' (by simp)]
    · rw [ha, ← List.append_assoc, ← List.map_append, List.drop_left' (by simp)]; exact ht

/-- **Never later, never a crash inside the validator**: every `t.In(x)` of `checkF` is in range. -/
theorem checkF_no_reflect_panic (s : Sig) (hwf : s.WF) (args : List ArgTy) :
    checkF (.func s) args ≠ .error .reflectPanic := by
  refine checkF_cases (P := (· ≠ .error .reflectPanic)) hwf.ne_nil ?reject ?loop ?ok
  case reject => exact fun _ e he h => he (Except.error.inj h)
  case loop =>   -- neither loop reads a parameter that is not there
    intro hg e he h
    rw [Except.error.inj h] at he
    exact he.elim (loops_of_guards hwf hg).2.1 (loops_of_guards hwf hg).2.2
  case ok => exact fun _ _ _ => nofun

/-! ### the pinned tree (D14a): an unsupported variadic tail was accepted when no value was passed -/
namespace Pinned
/-- `checkF` without the parameter loop of the fix -/
def checkFPinned (s : Sig) (args : List ArgTy) : Except Err Unit := checkArgs s (idxOf s.ins).x args
def sigFloats : Sig := ⟨[Ty.slice (Ty.other 0)], true, []⟩     -- func(...float64)
theorem accepted_before : checkFPinned sigFloats [] = .ok () := by decide
theorem rejected_now : checkF (.func sigFloats) [] = .error (.unsupported 0) := by decide
theorem not_well_typed : ¬ WellTyped sigFloats [] := by
  intro h
  obtain ⟨_, supported, _⟩ := (wellTyped_variadic_iff (s := sigFloats) rfl (fixed := []) (e := Ty.other 0) rfl).mp h
  -- the element type of the tail, `other 0`, is not supported
  cases supported (Ty.other 0) (List.mem_singleton_self _)
end Pinned

/-! ### identity: two mg.F values denote the same dependency iff same function and equal argument values -/

/-- the registry key of an `mg.F` value: the function's runtime name and `json.Marshal(args)` -/
def fKey (name : String) (args : List Json.Arg) : String × List Char := (name, Json.encList args)

/-- **Same key ⇔ same function and equal arguments**, for argument lists accepted by one function (whose parameter
kinds are fixed by its signature: `checkF` demands exactly matching types) and strings that are valid UTF-8. -/
theorem same_dependency_iff (name name' : String) (a b : List Json.Arg)
    (hshape : name = name' → a.map Json.Arg.kind = b.map Json.Arg.kind) :
    fKey name a = fKey name' b ↔ (name = name' ∧ a = b) := by
  constructor
  · intro h
    have h1 : name = name' := congrArg Prod.fst h
    have h2 : Json.encList a = Json.encList b := congrArg Prod.snd h
    exact ⟨h1, Json.encList_inj a b (hshape h1) h2⟩
  · rintro ⟨rfl, rfl⟩; rfl

/-- strings that contain the separators of the encoding are not confused: `["a\",\"b","c"]` vs `["a","b\",\"c"]` -/
example : fKey "f" [.str "a\",\"b".toList, .str "c".toList] ≠ fKey "f" [.str "a".toList, .str "b\",\"c".toList] := by decide +kernel

example : (⟨[Ty.ns, Ty.ctx, Ty.int, Ty.slice Ty.str], true, [Ty.err]⟩ : Sig).WF :=
  fun _ => ⟨Ty.str, [Ty.ns, Ty.ctx, Ty.int], rfl⟩
example : checkF (.func ⟨[Ty.ns, Ty.ctx, Ty.int, Ty.slice Ty.str], true, [Ty.err]⟩) [some Ty.int, some Ty.str, some Ty.str]
    = .ok (true, true) := by decide
example : checkF (.func ⟨[Ty.int, Ty.str], false, []⟩) [some Ty.int, some (Ty.other 3)] = .error (.mismatch 1) := by decide
example : checkF (.func ⟨[Ty.int], false, []⟩) [none] = .error (.mismatch 0) := by decide

end MageModel.Props.C14
