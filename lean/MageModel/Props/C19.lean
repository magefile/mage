import MageModel.Parse.PkgLemmas
import MageModel.Parse.FieldsLemmas
/-!
# C19 — mage:import exposes exactly the imported package's targets under its alias
All placements of the tag, all lengths of the comment group, all alias spellings.  `fields` is any function in the
general theorems; the last section states the recognition on the comment text itself, through the transcribed
`strings.Fields(strings.ToLower(text[2:]))` (`Parse/Fields.lean: commentFields`).
-/
namespace MageModel.Props.C19
open MageModel.Parse

/-- what the last line of a comment group says -/
def lastSays (tag : String) (fields : String → List String) (cs : List Comment) : Option (List String) :=
  match cs.getLast? with
  | none => none
  | some last => match fields last with
    | [] => none
    | v :: more => if v = tag then some (v :: more) else none

/-- **Whatever and however many comment lines precede the tag**: with the constant of the current source (0), a
comment group is recognised by its *last* line alone — for every group length. -/
theorem tag_any_length (tag : String) (fields : String → List String) (cs : List Comment) :
    tagOfGroup tag 0 fields (some cs) = lastSays tag fields cs := by
  unfold tagOfGroup lastSays
  cases cs with
  | nil => simp
  | cons c rest =>
    simp only [List.length_cons, Nat.add_one_ne_zero, if_false]
    cases (c :: rest).getLast? with
    | none => rfl
    | some last =>
      dsimp only
      cases hf : fields last with
      | nil => rfl
      | cons v more => rfl

theorem tagOfGroup_concat {tag : String} {fields : String → List String} {pre : List Comment} {last : Comment}
    {more : List String} (hf : fields last = tag :: more) :
    tagOfGroup tag 0 fields (some (pre ++ [last])) = some (tag :: more) := by
  simp only [tag_any_length, lastSays, List.getLast?_concat, hf, if_true]

/-- in particular the length of the group is irrelevant: only the last line matters -/
theorem tag_prefix_irrelevant (tag : String) (fields : String → List String) (pre pre' : List Comment) (last : Comment) :
    tagOfGroup tag 0 fields (some (pre ++ [last])) = tagOfGroup tag 0 fields (some (pre' ++ [last])) := by
  simp only [tag_any_length, lastSays, List.getLast?_concat]

theorem no_group_no_tag (tag : String) (n : Nat) (fields : String → List String) : tagOfGroup tag n fields none = none := rfl

/-- **The decision table of an import spec**: the leading group wins when its last line carries the tag, else the
trailing comment decides; a bare tag is a root import, `tag alias` a named one, anything longer is ignored. -/
theorem import_vals_spec (tag : String) (fields : String → List String) (sp : ImportSpec) :
    importVals tag 0 fields sp =
      (let doc := if sp.specsInDecl = 1 && !sp.parenthesised && sp.doc.isNone then sp.declDoc else sp.doc
       let says := fun (g : Option (List Comment)) => match g with | none => none | some cs => lastSays tag fields cs
       match says doc with | some v => some v | none => says sp.trailing) := by
  unfold importVals
  have h1 : ∀ g, tagOfGroup tag 0 fields g = (match g with | none => none | some cs => lastSays tag fields cs) := by
    intro g; cases g with
    | none => rfl
    | some cs => exact tag_any_length tag fields cs
  simp only [h1]
  rfl

theorem import_tag_table (tag : String) (fields : String → List String) (sp : ImportSpec) (hlit : sp.pathIsPlainLit = true) :
    getImportTag tag 0 fields sp = classifyVals (importVals tag 0 fields sp) := by
  simp [getImportTag, hlit]

theorem classify_table (t a b c : String) (more : List String) :
    classifyVals none = .no ∧ classifyVals (some [t]) = .root ∧ classifyVals (some [t, a]) = .named a ∧
    classifyVals (some (t :: a :: b :: more)) = .no ∧ classifyVals (some []) = .no := by
  refine ⟨rfl, rfl, rfl, rfl, rfl⟩

/-- an import without any comment contributes nothing -/
theorem untagged_nothing (tag : String) (fields : String → List String) (path : String) (paren : Bool) (n : Nat) :
    getImportTag tag 0 fields ⟨path, true, none, none, none, paren, n⟩ = .no := by
  simp [getImportTag, importVals, tagOfGroup, classifyVals]

/-! ## the pinned tree (D17): the constant was 9 -/
namespace Pinned
def fieldsStub : String → List String := fun s => if s = "// mage:import" then ["mage:import"] else ["x"]
def nine : List Comment := ["// 1", "// 2", "// 3", "// 4", "// 5", "// 6", "// 7", "// 8", "// mage:import"]
/-- a tag preceded by exactly eight other comment lines was dropped -/
theorem length_nine_dropped : tagOfGroup "mage:import" 9 fieldsStub (some nine) = none := by decide
theorem length_nine_now : tagOfGroup "mage:import" 0 fieldsStub (some nine) = some ["mage:import"] := by decide +kernel
theorem other_lengths_fine : tagOfGroup "mage:import" 9 fieldsStub (some (nine.drop 1)) = some ["mage:import"] := by decide +kernel
end Pinned

example : getImportTag "mage:import" 0 Pinned.fieldsStub
    ⟨"example.com/x", true, some ["// about", "// mage:import"], none, none, true, 3⟩ = .root := by decide +kernel

/-! ## one package, several aliases (D27) -/

/-- **Every aliased tag counts**: a (path, alias) pair is loaded exactly when some import spec is tagged
`mage:import alias` for that path — so a package tagged under two aliases contributes under both, however the tags are
spread over the files. -/
theorem named_imports_exact (tagged : List (String × Tagged)) (path alias : String) :
    (path, alias) ∈ collectNamed tagged ↔ (path, Tagged.named alias) ∈ tagged := by
  unfold collectNamed
  rw [mem_foldl_namedStep]
  simp

example : collectNamed [("p/tools", .named "dev"), ("p/lib", .root), ("p/tools", .named "ci"), ("p/tools", .named "dev")] =
    [("p/tools", "dev"), ("p/tools", "ci")] := by decide +kernel

/-! ## On the comment text itself (`commentFields` = the transcribed `strings.Fields ∘ strings.ToLower ∘ [2:]`) -/

theorem importTag_word : (∀ c ∈ "mage:import".toList, goIsSpace c = false) ∧ "mage:import".toList ≠ [] := by
  decide +kernel

/-- **a bare tag**: the group's last comment, after its two-character marker and lower-cased, is blanks, `mage:import`,
blanks — whatever precedes it in the group -/
theorem bare_tag_text (pre : List Comment) (last : Comment) (ws ws' : List Char)
    (hws : ∀ c ∈ ws, goIsSpace c = true) (hws' : ∀ c ∈ ws', goIsSpace c = true)
    (hbody : (lower (String.ofList (last.toList.drop 2))).toList = ws ++ "mage:import".toList ++ ws') :
    tagOfGroup "mage:import" 0 commentFields (some (pre ++ [last])) = some ["mage:import"] := by
  refine tagOfGroup_concat ?_
  rw [commentFields, goFields, hbody, goFieldsL_one ws _ ws' hws importTag_word.1 importTag_word.2 hws',
    List.map_cons, String.ofList_toList, List.map_nil]

/-- **a tag with an alias**: …, `mage:import`, at least one blank, one more word, blanks: the alias is that word -/
theorem alias_tag_text (pre : List Comment) (last : Comment) (ws s : List Char) (b : Char) (al ws' : List Char)
    (hws : ∀ c ∈ ws, goIsSpace c = true) (hb : goIsSpace b = true) (hs : ∀ c ∈ s, goIsSpace c = true)
    (hal : ∀ c ∈ al, goIsSpace c = false) (hne : al ≠ []) (hws' : ∀ c ∈ ws', goIsSpace c = true)
    (hbody : (lower (String.ofList (last.toList.drop 2))).toList = ws ++ "mage:import".toList ++ b :: (s ++ al ++ ws')) :
    tagOfGroup "mage:import" 0 commentFields (some (pre ++ [last])) = some ["mage:import", String.ofList al] := by
  refine tagOfGroup_concat ?_
  rw [commentFields, goFields, hbody, goFieldsL_two ws _ s b al ws' hws importTag_word.1 importTag_word.2 hb hs hal hne hws',
    List.map_cons, String.ofList_toList, List.map_cons, List.map_nil]

/-- letter case and the kind of blank do not matter; a longer first word is not the tag (tests of `commentFields`) -/
example : commentFields "// mage:import" = ["mage:import"] ∧ commentFields "//Mage:Import\tTL " = ["mage:import", "tl"] ∧
    commentFields "/* MAGE:IMPORT\u00a0ops */" = ["mage:import", "ops", "*/"] ∧ commentFields "// mage:imports" = ["mage:imports"] ∧
    commentFields "//" = [] ∧ commentFields "// \u3000 " = [] := by
  -- on characters: the kernel is slow at decoding and encoding a `String` three times per comment
  simp only [commentFields_chars]
  decide +kernel

example : tagOfGroup "mage:import" 0 commentFields (some ["// remark", "// more", "//   Mage:IMPORT  X1"]) = some ["mage:import", "x1"] := by
  rw [funext commentFields_chars]
  decide +kernel

end MageModel.Props.C19
