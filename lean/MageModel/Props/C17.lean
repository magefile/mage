import MageModel.Target.Lemmas
/-!
# C17 — target.Path/Glob/Dir report exactly when a rebuild is needed

Quantifiers: every destination state, every list of sources (any length, any order, any mtimes, any tree below a
source), unbounded.  The predicates `Quiet` and `QuietTree` of the statements are defined in `Target/Lemmas.lean`.
-/
namespace MageModel.Props.C17
open MageModel.Target

/-- **PathNewer, full decision table (true)**: the answer is `true` exactly when some source is strictly
newer than the destination time and every source before it exists and is not newer. -/
theorem pathNewer_true_iff (t : Int) (srcs : List (Option Int)) :
    pathNewer t srcs = .ok true ↔
      ∃ pre m post, srcs = pre ++ some m :: post ∧ m > t ∧ ∀ s ∈ pre, Quiet t s :=
  (pathStep_optStep t).scan_true_iff

/-- **PathNewer (error)**: an error is returned exactly when a source is missing and every source before it
exists and is not newer ("unless an earlier source already proved the destination stale"). -/
theorem pathNewer_error_iff (t : Int) (srcs : List (Option Int)) (i : Nat) :
    pathNewer t srcs = .error i ↔
      ∃ pre post, srcs = pre ++ none :: post ∧ pre.length = i ∧ ∀ s ∈ pre, Quiet t s :=
  (pathStep_optStep t).scan_error_iff (pathStep_some_ne_fail t)

/-- **PathNewer (false)**: `false` exactly when every source exists and none is newer. -/
theorem pathNewer_false_iff (t : Int) (srcs : List (Option Int)) :
    pathNewer t srcs = .ok false ↔ ∀ s ∈ srcs, Quiet t s :=
  (pathStep_optStep t).scan_false_iff

/-- When all sources exist the answer is the order-free "some source is strictly newer". -/
theorem pathNewer_all_exist (t : Int) (ms : List Int) :
    pathNewer t (ms.map some) = .ok (ms.any (fun m => decide (m > t))) := by
  simp only [pathNewer, scan, List.map_map, Function.comp_def, pathStep, after]
  exact scanFrom_eq_any

/-- **Order independence** (all sources exist): permuting the sources does not change the answer. -/
theorem pathNewer_perm (t : Int) (ms ms' : List Int) (h : ms.Perm ms') :
    pathNewer t (ms.map some) = pathNewer t (ms'.map some) := by
  rw [pathNewer_all_exist, pathNewer_all_exist, h.any_eq]

/-- **Strictness**: an equal time stamp is not newer; one nanosecond later is. -/
theorem strict_equal (t : Int) : pathNewer t [some t] = .ok false := by
  simpa using pathNewer_all_exist t [t]
theorem strict_plus_one (t : Int) : pathNewer t [some (t + 1)] = .ok true := by
  simpa [Int.lt_succ] using pathNewer_all_exist t [t + 1]

/-- **Path**: missing destination ⇒ `true`, whatever the sources (even missing ones). -/
theorem path_missing (srcs : List (Option Int)) : path .missing srcs = .ok true := rfl
theorem glob_missing (g) : glob .missing g = .ok true := rfl
theorem dir_missing (z) (srcs) : dir z .missing srcs = .ok true := rfl

theorem path_agrees (d : Dst) (mt : Int) (hd : d.mt? = some mt) (srcs) :
    path d srcs = liftAns (pathNewer mt srcs) := by
  cases d <;> cases hd <;> rfl

/-- **Path, existing destination, all sources exist**: `true` iff some source is strictly newer than the
destination's own mtime (also when the destination is a directory: Path never descends). -/
theorem path_spec (d : Dst) (mt : Int) (hd : d.mt? = some mt) (ms : List Int) :
    path d (ms.map some) = .ok (ms.any (fun m => decide (m > mt))) := by
  rw [path_agrees d mt hd, pathNewer_all_exist]; rfl

/-- **DirNewer (true)**: some entry — the source itself or any file or directory beneath it — is strictly newer,
and every earlier source exists with nothing newer in it. -/
theorem dirNewer_true_iff (t : Int) (srcs : List (Option (List Int))) :
    dirNewer t srcs = .ok true ↔
      ∃ pre ts post, srcs = pre ++ some ts :: post ∧ (∃ m ∈ ts, m > t) ∧ ∀ s ∈ pre, QuietTree t s :=
  (dirStep_optStep t).scan_true_iff

theorem dirNewer_error_iff (t : Int) (srcs : List (Option (List Int))) (i : Nat) :
    dirNewer t srcs = .error i ↔
      ∃ pre post, srcs = pre ++ none :: post ∧ pre.length = i ∧ ∀ s ∈ pre, QuietTree t s :=
  (dirStep_optStep t).scan_error_iff (dirStep_some_ne_fail t)

theorem dirNewer_false_iff (t : Int) (srcs : List (Option (List Int))) :
    dirNewer t srcs = .ok false ↔ ∀ s ∈ srcs, QuietTree t s :=
  (dirStep_optStep t).scan_false_iff

theorem dirNewer_all_exist_any (t : Int) (trees : List (List Int)) :
    dirNewer t (trees.map some) = .ok (trees.any fun ts => ts.any fun m => decide (m > t)) := by
  simp only [dirNewer, scan, List.map_map, Function.comp_def, dirStep, walkNewer_eq_any]
  exact scanFrom_eq_any

/-- All sources exist ⇒ the answer is "some entry of some tree is strictly newer": independent of the
order of the sources *and* of the visit order inside each tree. -/
theorem dirNewer_all_exist (t : Int) (trees : List (List Int)) :
    dirNewer t (trees.map some) = .ok (decide (∃ ts ∈ trees, ∃ m ∈ ts, m > t)) := by
  rw [dirNewer_all_exist_any]; congr 1; rw [Bool.eq_iff_iff]; simp only [List.any_eq_true, decide_eq_true_eq]

theorem dirNewer_perm (t : Int) (a b : List (List Int)) (h : a.Perm b) :
    dirNewer t (a.map some) = dirNewer t (b.map some) := by
  rw [dirNewer_all_exist_any, dirNewer_all_exist_any, h.any_eq]

/-- Pointwise permutation of the visit lists (a different `filepath.Walk` order inside each source). -/
inductive TreesPerm : List (List Int) → List (List Int) → Prop
  | nil : TreesPerm [] []
  | cons {x y xs ys} : x.Perm y → TreesPerm xs ys → TreesPerm (x :: xs) (y :: ys)

/-- Visit order inside a tree is irrelevant as well. -/
theorem dirNewer_walk_order (t : Int) (a b : List (List Int)) (h : TreesPerm a b) :
    dirNewer t (a.map some) = dirNewer t (b.map some) := by
  rw [dirNewer_all_exist_any, dirNewer_all_exist_any]
  induction h with
  | nil => rfl
  | cons hp _ ih => rw [List.any_cons, List.any_cons, hp.any_eq, Except.ok.inj ih]

/-- **NewestModTime is the maximum** over every entry of every target (when all exist and no entry predates
Go's zero time, which no file system can represent). -/
theorem newest_is_max (zero : Int) (trees : List (List Int)) :
    ∃ r, newest zero (trees.map some) = .ok r ∧ (∀ ts ∈ trees, ∀ m ∈ ts, m ≤ r) ∧ zero ≤ r ∧
      (r = zero ∨ ∃ ts ∈ trees, r ∈ ts) := by
  -- the witness `foldl max zero flat` is `(zero :: flat).max?`, so it is a member and an upper bound of `zero :: flat`
  have ⟨hmem, hub⟩ := (List.max?_eq_some_iff (xs := zero :: trees.flatten)).mp List.max?_cons'
  refine ⟨trees.flatten.foldl max zero, newestFrom_some 0 zero trees,
    fun ts hts m hm => hub m (.tail _ (List.mem_flatten.mpr ⟨ts, hts, hm⟩)), hub zero (.head _), ?_⟩
  exact (List.mem_cons.mp hmem).imp_right List.mem_flatten.mp

/-- A missing target is an error of NewestModTime (first missing one, by index). -/
theorem newest_missing (zero : Int) (pre : List (List Int)) (post) :
    newest zero (pre.map some ++ none :: post) = .error pre.length := by
  rw [newest, newestFrom_missing, Nat.zero_add]

/-- **OldestModTime is the minimum** over every entry, as soon as there is at least one entry —
whatever the sentinel (this is what the D23 fix restores; see `Pinned.oldest_sentinel_wins`). -/
theorem oldest_is_min (sentinel : Int) (trees : List (List Int)) (hne : ∃ ts ∈ trees, ts ≠ []) :
    ∃ r, oldest true sentinel (trees.map some) = .ok r ∧ (∀ ts ∈ trees, ∀ m ∈ ts, r ≤ m) ∧
      (∃ ts ∈ trees, r ∈ ts) := by
  rw [oldest, oldestFrom_first]
  cases h : trees.flatten.min? with
  | none =>
    obtain ⟨ts, hts, hne⟩ := hne
    exact absurd (List.flatten_eq_nil_iff.mp (List.min?_eq_none_iff.mp h) ts hts) hne
  | some r =>
    have ⟨hmem, hlb⟩ := List.min?_eq_some_iff.mp h
    exact ⟨r, rfl, fun ts hts m hm => hlb m (List.mem_flatten.mpr ⟨ts, hts, hm⟩), List.mem_flatten.mp hmem⟩

/-- DirNewer against NewestModTime of `d` is Dir with destination directory `d` (agreement of the helpers). -/
theorem dir_agrees_newest (zero mt : Int) (tree : List Int) (srcs) (r : Int)
    (h : newest zero [some tree] = .ok r) :
    dir zero (.dir mt (some tree)) srcs = liftAns (dirNewer r srcs) := by
  simp [dir, h]

/-- **Dir, directory destination**: the reference time is the newest entry of the destination's whole subtree
(root included); the answer is then DirNewer against that time. -/
theorem dir_dirdst (zero : Int) (mt : Int) (tree : List Int) (srcs) :
    ∃ r, (∀ m ∈ tree, m ≤ r) ∧ (r = zero ∨ r ∈ tree) ∧ zero ≤ r ∧
      dir zero (.dir mt (some tree)) srcs = liftAns (dirNewer r srcs) := by
  obtain ⟨r, h1, h2, h3, h4⟩ := newest_is_max zero [tree]
  refine ⟨r, h2 tree (.head _), h4.imp_right ?_, h3, dir_agrees_newest zero mt tree srcs r h1⟩
  rintro ⟨ts, hts, hr⟩
  rwa [List.mem_singleton.mp hts] at hr

theorem dir_filedst (zero mt : Int) (srcs) : dir zero (.file mt) srcs = liftAns (dirNewer mt srcs) := rfl

/-- **GlobNewer (false)**: `false` exactly when every pattern is well-formed, matches at least one path, and no
match is strictly newer. -/
theorem globNewer_false_iff (t : Int) (globs : List (Option (List (Option Int)))) :
    globNewer t globs = .ok false ↔ ∀ g ∈ globs, ∃ ms, g = some ms ∧ ms ≠ [] ∧ ∀ s ∈ ms, Quiet t s :=
  (globStep_optStep t).scan_false_iff

/-- **GlobNewer (true)**: a pattern has a strictly newer match that is decisive within its own match list, and
every earlier pattern matched something with nothing newer. -/
theorem globNewer_true_iff (t : Int) (globs : List (Option (List (Option Int)))) :
    globNewer t globs = .ok true ↔
      ∃ pre ms post, globs = pre ++ some ms :: post ∧ pathNewer t ms = .ok true ∧
        ∀ g ∈ pre, ∃ ms', g = some ms' ∧ ms' ≠ [] ∧ ∀ s ∈ ms', Quiet t s :=
  (globStep_optStep t).scan_true_iff

/-- A pattern without matches is an error unless an earlier pattern already decided. -/
theorem globNewer_empty_match (t : Int) (pre : List (List Int)) (post)
    (hpre : ∀ ms ∈ pre, ms ≠ [] ∧ ∀ m ∈ ms, m ≤ t) :
    globNewer t (pre.map (fun ms => some (ms.map some)) ++ some [] :: post) = .error pre.length := by
  refine scanFrom_map_error_iff.mpr ⟨_, _, _, rfl, rfl, by rw [Nat.zero_add, List.length_map], fun g hg => ?_⟩
  obtain ⟨ms, hms, rfl⟩ := List.mem_map.mp hg
  refine ((globStep_optStep t).cont_iff _).mpr ⟨_, rfl, mt List.map_eq_nil_iff.mp (hpre ms hms).1, fun s hs => ?_⟩
  obtain ⟨m, hm, rfl⟩ := List.mem_map.mp hs
  exact ⟨m, rfl, (hpre ms hms).2 m hm⟩

/-! ### The pinned tree (before the D23 fix) violated `oldest_is_min` -/
namespace Pinned
/-- `useFirst = false` is the loop as it was: every entry later than the sentinel ⇒ the sentinel is returned. -/
theorem oldest_sentinel_wins : oldest false 100 [some [200, 300]] = .ok 100 := by decide
/-- With the fix the minimum is returned on the same input. -/
theorem oldest_fixed : oldest true 100 [some [200, 300]] = .ok 200 := by decide
end Pinned

/-! ### Non-vacuity: the hypotheses of the theorems above are met by concrete non-trivial inputs -/
example : pathNewer 10 [some 5, some 11, none] = .ok true := by decide
example : pathNewer 10 [some 5, none, some 11] = .error 1 := by decide
example : Quiet 10 (some 10) := ⟨10, rfl, by omega⟩
example : dirNewer 10 [some [1, 2, 3], some [4, 11]] = .ok true := by decide
example : (∃ ts ∈ [[(3:Int), 4], []], ts ≠ []) := ⟨[3,4], by simp, by simp⟩
example : dir 0 (.dir 50 (some [50, 70, 60])) [some [65, 70]] = .ok false := by decide
example : dir 0 (.dir 50 (some [50, 70, 60])) [some [65, 71]] = .ok true := by decide
example : globNewer 10 [some [some 3], some []] = .error 1 := by decide

end MageModel.Props.C17
