import MageModel.Sh.SliceLemmas
/-!
# C16 — sh calls do not modify their inputs and are repeatable

Theorems for `Cfg.fixed` (the current source, see `Bridge/C16.lean`): for every heap, every captured slice
(any offset, any spare capacity), every argument list, every environment and every amount of spare capacity the
runtime hands out.  Histories are lists of calls with an arbitrary environment per call.
-/
namespace MageModel.Props.C16
open MageModel.Sh

/-- **One closure call**: the child receives `map (expand env) (baked ++ extra)`; no cell of any array that
existed before the call changes (in particular the captured slice, the caller's slices, and their spare
capacity). -/
theorem closure_call (env : String → String) (h : Heap) (baked : Slice) (extra : List String) (sp1 sp2 : Nat) :
    (closureCall Cfg.fixed env h baked extra sp1 sp2).2 = (h.read baked ++ extra).map (expand env) ∧
    (∀ a i, a < h.size → (closureCall Cfg.fixed env h baked extra sp1 sp2).1.get a i = h.get a i) ∧
    h.size ≤ (closureCall Cfg.fixed env h baked extra sp1 sp2).1.size := by
  rw [closureCall_fixed]
  -- the copy `c` lives in the new array `h.size`, so appending to it cannot touch an old cell
  let c := h.alloc (h.read baked) sp1
  let r := appendS c.1 c.2 extra sp2
  have hle : h.size ≤ r.1.size := Nat.le_trans (Nat.le_succ _) (appendS_size c.1 c.2 extra sp2)
  have hr : r.2.arr < r.1.size := appendS_arr_lt (Nat.lt_succ_self h.size)
  obtain ⟨e1, e2, e3⟩ := execArgs_fixed env hr
  refine ⟨e1.trans ?_, fun a i ha => (e2 a i (Nat.lt_of_lt_of_le ha hle)).trans ?_, Nat.le_trans hle e3⟩
  · rw [appendS_read, Heap.read_alloc_new]
  · rw [appendS_get (Nat.lt_succ_of_lt ha) (.inl (Nat.ne_of_lt ha)), Heap.get_alloc, if_neg (Nat.ne_of_lt ha)]

/-- **Direct call** `sh.Run(cmd, xs...)`, `sh.Output(cmd, xs...)`, … with the caller's slice: the caller's slice
(and everything else) is unchanged afterwards. -/
theorem direct_call (env : String → String) {h : Heap} {xs : Slice} (hx : xs.arr < h.size) :
    (directCall Cfg.fixed env h xs).2 = (h.read xs).map (expand env) ∧
    (∀ a i, a < h.size → (directCall Cfg.fixed env h xs).1.get a i = h.get a i) :=
  ⟨(execArgs_fixed env hx).1, (execArgs_fixed env hx).2.1⟩

/-- a history of closure calls: per call its extra arguments, the environment at that time and the runtime's
spare-capacity choices -/
structure Call where
  extra : List String
  env : String → String
  sp1 : Nat
  sp2 : Nat

def runHistory (h : Heap) (baked : Slice) : List Call → Heap × List (List String)
  | [] => (h, [])
  | c :: rest =>
    let r := closureCall Cfg.fixed c.env h baked c.extra c.sp1 c.sp2
    let rr := runHistory r.1 baked rest
    (rr.1, r.2 :: rr.2)

/-- **Every call of a history** — first or later, with or without extra arguments, whatever spare capacity —
behaves like sh.Run / sh.Output with `baked₀ ++ extra`, expanded against the environment of *that* call; and
at the end every array that existed at the beginning is unchanged. -/
theorem history_spec (h : Heap) (baked : Slice) (hb : baked.arr < h.size) (calls : List Call) :
    (runHistory h baked calls).2 = calls.map (fun c => (h.read baked ++ c.extra).map (expand c.env)) ∧
    (∀ a i, a < h.size → (runHistory h baked calls).1.get a i = h.get a i) := by
  induction calls generalizing h with
  | nil => exact ⟨rfl, fun _ _ _ => rfl⟩
  | cons c rest ih =>
    obtain ⟨c1, c2, c3⟩ := closure_call c.env h baked c.extra c.sp1 c.sp2
    obtain ⟨i1, i2⟩ := ih _ (Nat.lt_of_lt_of_le hb c3)
    -- after the call the captured slice reads as before
    rw [Heap.read_congr (s := baked) rfl fun i _ => c2 _ _ hb] at i1
    exact ⟨by rw [runHistory, List.map_cons, c1, i1],
      fun a i ha => by rw [runHistory, i2 a i (Nat.lt_of_lt_of_le ha c3), c2 a i ha]⟩

/-- closure call ≡ direct call with the concatenated argument list -/
theorem equals_direct (env) (h h' : Heap) (baked xs : Slice) (extra : List String) (sp1 sp2 : Nat)
    (hb : baked.arr < h.size) (hx : xs.arr < h'.size) (heq : h'.read xs = h.read baked ++ extra) :
    (closureCall Cfg.fixed env h baked extra sp1 sp2).2 = (directCall Cfg.fixed env h' xs).2 := by
  rw [(closure_call env h baked extra sp1 sp2).1, (direct_call env hx).1, heq]

/-! ### The pinned tree (both facts false) violated all three clauses — witnesses -/
namespace Pinned
def envX (v : String) : String → String := fun k => if k = "X" then v else ""
def h0 : Heap := (Heap.alloc ⟨0, fun _ _ => ""⟩ ["$X"] 0).1          -- baked = ["$X"], cap = len
def baked0 : Slice := ⟨0, 0, 1, 1⟩
/-- second call sees the first call's expansion -/
theorem second_call_stale :
    let r1 := closureCall Cfg.pinned (envX "one") h0 baked0 [] 0 0
    (closureCall Cfg.pinned (envX "two") r1.1 baked0 [] 0 0).2 = ["one"] := by decide +kernel
/-- the fixed code gives the environment of that call -/
theorem second_call_fixed :
    let r1 := closureCall Cfg.fixed (envX "one") h0 baked0 [] 0 0
    (closureCall Cfg.fixed (envX "two") r1.1 baked0 [] 0 0).2 = ["two"] := by decide +kernel
/-- the caller's slice is rewritten by a direct call -/
theorem caller_slice_rewritten : (directCall Cfg.pinned (envX "one") h0 baked0).1.get 0 0 = "one" := by decide +kernel
/-- spare capacity: two calls of one closure share the slot after the baked arguments -/
def h1 : Heap := (Heap.alloc ⟨0, fun _ _ => ""⟩ ["a"] 1).1             -- baked = ["a"], one spare slot
def baked1 : Slice := ⟨0, 0, 1, 2⟩
theorem spare_capacity_shared :
    ((appendS (appendS h1 baked1 ["x"] 0).1 baked1 ["y"] 0).1).read (appendS h1 baked1 ["x"] 0).2 = ["a", "y"] := by decide
end Pinned

example : (0 : Nat) < Pinned.h0.size := by decide
example : (closureCall Cfg.fixed (Pinned.envX "v") Pinned.h1 Pinned.baked1 ["$X", "z"] 3 0).2 = ["a", "v", "z"] := by decide +kernel

end MageModel.Props.C16
