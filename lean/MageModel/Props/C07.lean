import MageModel.Parse.PkgLemmas
import MageModel.Gen.DispatchLemmas
/-!
# C07 — ambiguous target names are rejected, never silently resolved
All packages: any functions, namespaces, imports and aliases.
-/
namespace MageModel.Props.C07
open MageModel.Parse

/-- two occurrences at different positions carry the same name -/
def Collides (l : List String) : Prop := ∃ i j : Nat, i < j ∧ j < l.length ∧ l[i]? = l[j]?

theorem collides_iff_not_nodup (l : List String) : Collides l ↔ ¬ l.Nodup := by
  rw [List.nodup_iff_pairwise_ne, List.pairwise_iff_getElem]
  constructor
  · rintro ⟨i, j, hij, hj, he⟩ h
    have hi : i < l.length := Nat.lt_trans hij hj
    rw [List.getElem?_eq_getElem hi, List.getElem?_eq_getElem hj, Option.some.injEq] at he
    exact h i j hi hj hij he
  · intro h
    simp only [Classical.not_forall, Decidable.not_not] at h
    obtain ⟨i, j, hi, hj, hij, he⟩ := h
    exact ⟨i, j, hij, hj, by rw [List.getElem?_eq_getElem hi, List.getElem?_eq_getElem hj, he]⟩

theorem hasDup_iff (l : List String) : hasDup l = true ↔ Collides l := by
  rw [collides_iff_not_nodup, ← hasDup_eq_false_iff, Bool.not_eq_false]

/-- **Inside one package**: `parse.Package` refuses exactly when two targets of the package have the same
case-insensitive name (`name`, or `namespace:name`). -/
theorem package_rejects_iff (p : Pkg) :
    (∃ e, package p = .error e) ↔ Collides ((collectFuncs p).map dupeKey) := by
  rw [← hasDup_iff]
  unfold package
  dsimp only
  cases hasDup ((collectFuncs p).map dupeKey) <;> simp

/-- the runnable names of a build: every target under its command-line name, and every alias, lower-cased
(aliases in reverse order of declaration first — only the multiset matters for `Collides`) -/
def runnableNames (own : List Function) (imports : List Import) (aliases : List (String × Function)) : List String :=
  (aliases.map fun a => lower a.1).reverse ++ (own ++ imports.flatMap (·.funcs)).map fun f => lower f.targetName

/-- **Across the whole build**: the cross-package / alias check refuses exactly when two runnable names — targets,
namespace targets, imported targets, aliases — are equal ignoring case. -/
theorem checkDupes_rejects_iff (own : List Function) (imports : List Import) (aliases : List (String × Function)) :
    (∃ e, checkDupes own imports aliases = .error e) ↔ Collides (runnableNames own imports aliases) := by
  rw [collides_iff_not_nodup, runnableNames, ← checkDupes_ok_iff_nodup_runnable]
  cases checkDupes own imports aliases <;> simp

/-- **No false rejection**: a build whose runnable names are pairwise different (ignoring case) passes the check. -/
theorem no_false_reject (own : List Function) (imports : List Import) (aliases : List (String × Function))
    (h : ¬ Collides (runnableNames own imports aliases)) : checkDupes own imports aliases = .ok () :=
  match hc : checkDupes own imports aliases with
  | .ok () => rfl
  | .error e => absurd ((checkDupes_rejects_iff ..).mp ⟨e, hc⟩) h

open MageModel.Gen
/-- **An accepted build dispatches unambiguously**: when the duplicate check passes, every target — own, namespaced,
imported — is reached by its own command-line name (in any letter case), not shadowed by an alias or by another
target.  (Together with `checkDupes_rejects_iff`: ambiguity is rejected, everything else runs what it names.) -/
theorem accepted_dispatch_unambiguous (info : PkgInfo) (h : checkDupes info.funcs info.imports info.aliases = .ok ())
    (i : Nat) (hi : i < (allTargets info).length) (w : String) (hw : lower w = lower ((allTargets info)[i]).targetName) :
    resolve info w = some (allTargets info)[i] := by
  obtain ⟨-, hnames, hdisj⟩ := (checkDupes_ok_iff ..).mp h
  have hmem := List.getElem_mem hi
  exact resolve_own_name hmem hnames (fun a ha => hdisj a ha _ hmem) hw

/-! ## the pinned tree (D8): the alias check ran before the aliases were collected -/
namespace Pinned
def build : Function := { name := "Build", isError := false, isContext := false, args := [] }
def other : Function := { name := "Other", isError := false, isContext := false, args := [] }
/-- with no aliases known yet nothing is found … -/
theorem checked_too_early : checkDupes [build, other] [] [] = .ok () := by decide +kernel
/-- … although alias "build" → Other collides with target Build: the check after `setAliases` finds it -/
theorem found_now : checkDupes [build, other] [] [("build", other)] = .error (.aliasDup "build" ["<current>.Build"] true) := by decide +kernel
/-- and a mixed-case alias is found as well (the alias is lower-cased first) -/
theorem mixed_case_found : checkDupes [build, other] [] [("BUILD", other)] = .error (.aliasDup "build" ["<current>.Build"] true) := by decide +kernel
end Pinned

example : Collides ["build", "test", "build"] := ⟨0, 2, by omega, by simp, by simp⟩
example : ¬ Collides ["build", "test"] := by rw [← hasDup_iff]; decide

end MageModel.Props.C07
