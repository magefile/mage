import MageModel.Gen.DispatchLemmas
import MageModel.Gen.Main
import MageModel.Gen.FlagsLemmas
import MageModel.Invoke.Front
import MageModel.Gen.StrconvLemmas
/-!
# C04 — command-line words run exactly the named targets with converted arguments
All `PkgInfo`s (any mix of plain, namespaced, imported and aliased targets, any parameter lists), all word lists,
all conversion answers of the standard library, all target outcomes.
-/
namespace MageModel.Props.C04
open MageModel.Parse MageModel.Gen

/-- **The specification**: words are consumed left to right; each name is resolved (aliases first, both
case-insensitively), takes as many following words as the target has parameters, converted in declaration order;
an unknown name, too few words or an unconvertible word stops with status 2 *before* the call; a failing call stops
with its status after it; nothing after a stop runs. -/
inductive Runs (info : PkgInfo) (conv : Conv) (outcome : Call → Int) : List String → List Call → Int → Prop where
  | done : Runs info conv outcome [] [] 0
  | unknown (w rest) : resolve info w = none → Runs info conv outcome (w :: rest) [] 2
  | tooFew (w rest f) : resolve info w = some f → rest.length < f.args.length → Runs info conv outcome (w :: rest) [] 2
  | badArg (w rest f e) : resolve info w = some f → f.args.length ≤ rest.length →
      convertArgs conv f.args (rest.take f.args.length) = .error e → Runs info conv outcome (w :: rest) [] 2
  | failed (w rest f vals) : resolve info w = some f → f.args.length ≤ rest.length →
      convertArgs conv f.args (rest.take f.args.length) = .ok vals → outcome ⟨f.id, vals⟩ ≠ 0 →
      Runs info conv outcome (w :: rest) [⟨f.id, vals⟩] (outcome ⟨f.id, vals⟩)
  | step (w rest f vals calls st) : resolve info w = some f → f.args.length ≤ rest.length →
      convertArgs conv f.args (rest.take f.args.length) = .ok vals → outcome ⟨f.id, vals⟩ = 0 →
      Runs info conv outcome (rest.drop f.args.length) calls st →
      Runs info conv outcome (w :: rest) (⟨f.id, vals⟩ :: calls) st

theorem dispatch_sound {info : PkgInfo} {conv : Conv} {outcome : Call → Int} {fuel : Nat} {words : List String}
    (hf : words.length < fuel) :
    Runs info conv outcome words (dispatch info conv outcome fuel words).calls (dispatch info conv outcome fuel words).status := by
  fun_induction dispatch info conv outcome fuel words with
  | case1 => cases hf
  | case2 => exact .done
  | case3 _ w rest hr => exact .unknown w rest hr
  | case4 _ w rest f hr hl => exact .tooFew w rest f hr hl
  | case5 _ w rest f hr hl e hc =>
    exact .badArg w rest f e hr (Nat.not_lt.mp hl) hc
  | case6 _ w rest f hr hl vals hc call st hst =>
    exact .failed w rest f vals hr (Nat.not_lt.mp hl) hc hst
  | case7 fuel w rest f hr hl vals hc call st hst r ih =>
    exact .step w rest f vals _ _ hr (Nat.not_lt.mp hl) hc (Decidable.not_not.mp hst)
      (ih (by simp only [List.length_cons, List.length_drop] at hf ⊢; omega))

theorem dispatch_complete {info : PkgInfo} {conv : Conv} {outcome : Call → Int} {words : List String} {calls : List Call}
    {st : Int} (h : Runs info conv outcome words calls st) :
    ∀ fuel, words.length ≤ fuel → (dispatch info conv outcome (fuel + 1) words).calls = calls ∧
      (dispatch info conv outcome (fuel + 1) words).status = st := by
  induction h with
  | done => intro _ _; exact ⟨rfl, rfl⟩
  | unknown w rest hr => intro _ _; simp [dispatch, hr]
  | tooFew w rest f hr hl => intro _ _; simp [dispatch, hr, hl]
  | badArg w rest f e hr hl hc => intro _ _; simp [dispatch, hr, Nat.not_lt.mpr hl, hc]
  | failed w rest f vals hr hl hc hst => intro _ _; simp [dispatch, hr, Nat.not_lt.mpr hl, hc, hst]
  | step w rest f vals calls st hr hl hc hst _ ih =>
    intro fuel hf
    simp only [List.length_cons] at hf
    -- the recursive call runs on `fuel - 1`; the induction hypothesis wants it as a successor
    obtain ⟨fuel, rfl⟩ : ∃ k, fuel = k + 1 := ⟨fuel - 1, by omega⟩
    simp [dispatch, hr, Nat.not_lt.mpr hl, hc, hst, ih fuel (by simp only [List.length_drop]; omega)]

/-- the specification is deterministic: a word list has one behaviour -/
theorem runs_functional (info : PkgInfo) (conv : Conv) (outcome : Call → Int) (words : List String)
    (c1 c2 : List Call) (s1 s2 : Int) (h1 : Runs info conv outcome words c1 s1) (h2 : Runs info conv outcome words c2 s2) :
    c1 = c2 ∧ s1 = s2 := by
  obtain ⟨e1, e2⟩ := dispatch_complete h1 _ (Nat.le_refl _)
  obtain ⟨e3, e4⟩ := dispatch_complete h2 _ (Nat.le_refl _)
  exact ⟨e1.symm.trans e3, e2.symm.trans e4⟩

/-- **Exactly the specified behaviour** (soundness one way, completeness the other). -/
theorem dispatch_iff_runs (info : PkgInfo) (conv : Conv) (outcome : Call → Int) (words : List String)
    (calls : List Call) (st : Int) :
    ((dispatch info conv outcome (words.length + 1) words).calls = calls ∧
      (dispatch info conv outcome (words.length + 1) words).status = st) ↔ Runs info conv outcome words calls st :=
  ⟨fun ⟨h1, h2⟩ => h1 ▸ h2 ▸ dispatch_sound (Nat.lt_succ_self _),
   fun h => dispatch_complete h _ (Nat.le_refl _)⟩

/-- **Case-insensitive names**: two spellings that differ only in letter case resolve to the same function. -/
theorem case_insensitive (info : PkgInfo) (w w' : String) (h : lower w = lower w') : resolve info w = resolve info w' := by
  -- the alias switch sees only `lower w`; without an alias, so does the target switch
  cases ha' : info.aliases.find? (fun x => lower x.1 == lower w') with
  | some p =>
    have ha := ha'; rw [← h] at ha
    rw [resolve_alias ha, resolve_alias ha']
  | none =>
    have ha := ha'; rw [← h] at ha
    rw [resolve_no_alias ha, resolve_no_alias ha', h]

/-- **Aliases first**: a declared alias resolves to its function's own name, whatever case it is typed in. -/
theorem alias_resolves (info : PkgInfo) (w a : String) (f : Function)
    (h : info.aliases.find? (fun x => lower x.1 == lower w) = some (a, f)) :
    resolve info w = (allTargets info).find? fun g => lower g.targetName == lower f.targetName :=
  resolve_alias h

/-- **String arguments are passed verbatim** — also when they look like target names or flags: a word in argument
position is never looked up. -/
theorem string_arg_verbatim (conv : Conv) (name w : String) (as : List Arg) (ws : List String) (vals : List ArgVal)
    (h : convertArgs conv (⟨name, "string"⟩ :: as) (w :: ws) = .ok vals) : vals.head? = some (.str w) := by
  simp only [convertArgs] at h
  cases hc : convertArgs conv as ws with
  | error e => rw [hc] at h; cases h
  | ok more => rw [hc] at h; cases h; rfl

/-- **Conversions in declaration order with the standard library's parsers** -/
theorem int_arg_atoi (conv : Conv) (name w : String) (as : List Arg) (ws : List String) :
    (∃ vals, convertArgs conv (⟨name, "int"⟩ :: as) (w :: ws) = .ok vals) →
      ∃ i, conv.atoi w = some i := by
  rintro ⟨vals, h⟩
  simp only [convertArgs] at h
  cases ha : conv.atoi w with
  | none => rw [ha] at h; cases h
  | some i => exact ⟨i, rfl⟩

/-- an unknown name, a missing or an unconvertible argument stops with status 2 before the target's body starts,
and nothing later runs -/
theorem misuse_stops (info : PkgInfo) (conv : Conv) (outcome : Call → Int) (w : String) (rest : List String)
    (h : resolve info w = none) :
    (dispatch info conv outcome (rest.length + 2) (w :: rest)).calls = [] ∧
    (dispatch info conv outcome (rest.length + 2) (w :: rest)).status = 2 := by
  simp [dispatch, h]

/-- no target words: the default target, or the list when there is none or MAGEFILE_IGNOREDEFAULT is set -/
theorem no_words (info : PkgInfo) (conv : Conv) (outcome : Call → Int) (ign : Bool) :
    (info.defaultFunc = none → (run info conv outcome ign []).2 = true ∧ (run info conv outcome ign []).1.calls = []) ∧
    (∀ d, info.defaultFunc = some d → ign = true → (run info conv outcome ign []).2 = true ∧ (run info conv outcome ign []).1.calls = []) ∧
    (∀ d, info.defaultFunc = some d → ign = false → d.args = [] →
      (run info conv outcome ign []).1.calls = [⟨d.id, []⟩] ∧ (run info conv outcome ign []).2 = false) := by
  refine ⟨?_, ?_, ?_⟩
  · intro h; simp [run, h]
  · intro d h hi; simp [run, h, hi]
  · intro d h hi ha; simp [run, h, hi, ha]

/-- **`mage w₁ … wₙ` hands exactly `w₁ … wₙ` to the dispatch loop** — whatever the words look like (`-l`, `--`, `-v=x`):
the front end passes its flags through the environment and puts `--` before the words, so the generated main's own
flag parser consumes nothing of them (this is what `mage -- -l` relies on; D21). -/
theorem words_reach_child_verbatim (pd : String → Option Int) (inv : MageModel.Invoke.Inv) :
    MageModel.Gen.Flags.parse childSpecs pd (MageModel.Invoke.childArgv inv) [] = .ok ([], inv.args) :=
  Flags.parse_terminator ..

/-- given to the compiled binary directly, a first word that looks like a flag *is* parsed as one — `--` is needed there too -/
example : MageModel.Gen.Flags.parse childSpecs (fun _ => none) ["-l"] [] = .ok ([("l", .b true)], []) := by decide
example : MageModel.Gen.Flags.parse childSpecs (fun _ => none) ["--", "-l"] [] = .ok ([], ["-l"]) := by decide

def exInfo : PkgInfo :=
  { funcs := [{ name := "Build", isError := false, isContext := false, args := [⟨"n", "int"⟩] },
              { name := "Clean", isError := false, isContext := false, args := [] }],
    aliases := [("b", { name := "Build", isError := false, isContext := false, args := [⟨"n", "int"⟩] })] }
def exConv : Conv := ⟨fun w => if w = "7" then some 7 else none, fun _ => none, fun _ => none⟩
example : (dispatch exInfo exConv (fun _ => 0) 9 ["B", "7", "CLEAN"]).calls =
    [⟨"<current>.Build", [.int 7]⟩, ⟨"<current>.Clean", []⟩] := by decide +kernel
example : (dispatch exInfo exConv (fun _ => 0) 9 ["build", "x", "clean"]).status = 2 := by decide +kernel

/-! ### The conversions are the standard library's, transcribed (`Gen/Strconv.lean`), not recorded answers

`stdConv` instantiates every theorem above (they hold for all `conv`); the statements below are about the concrete
`strconv.Atoi`, `strconv.ParseBool` and `time.ParseDuration`. -/

/-- **int via strconv.Atoi**: the decimal numeral of any `n < 2^63` given to an `int` parameter arrives as `n` -/
theorem int_word_decimal (name : String) (n : Nat) (h : n < Strconv.two63) :
    convertArgs stdConv [⟨name, "int"⟩] [Nat.repr n] = .ok [.int n] := by
  simp [convertArgs, stdConv, Strconv.atoi_repr n h]

/-- … and `-n` down to −2^63 -/
theorem int_word_negative (name : String) (n : Nat) (h : n ≤ Strconv.two63) :
    convertArgs stdConv [⟨name, "int"⟩] ["-" ++ Nat.repr n] = .ok [.int (-(n : Int))] := by
  simp [convertArgs, stdConv, Strconv.atoi_neg_repr n h]

/-- every `int` a target receives fits 64 bits -/
theorem int_arg_in_range (name w : String) (i : Int) (h : convertArgs stdConv [⟨name, "int"⟩] [w] = .ok [.int i]) :
    -(Strconv.two63 : Int) ≤ i ∧ i < (Strconv.two63 : Int) := by
  simp only [convertArgs, stdConv] at h
  cases ha : Strconv.atoi w with
  | none => rw [ha] at h; cases h
  | some j => rw [ha] at h; cases h; exact Strconv.atoi_range w _ ha

/-- **bool via strconv.ParseBool**: `true` arrives exactly for the six spellings -/
theorem bool_word_true_iff (name w : String) :
    convertArgs stdConv [⟨name, "bool"⟩] [w] = .ok [.bool true] ↔ w ∈ ["1", "t", "T", "TRUE", "true", "True"] := by
  rw [← Strconv.parseBool_true_iff]
  simp only [convertArgs, stdConv]
  cases hb : Strconv.parseBool w with
  | none => simp
  | some b => cases b <;> simp

/-- every duration a target receives is an `int64` count of nanoseconds -/
theorem duration_arg_in_range (name w : String) (d : Int)
    (h : convertArgs stdConv [⟨name, "time.Duration"⟩] [w] = .ok [.dur d]) :
    -(Strconv.two63 : Int) ≤ d ∧ d < (Strconv.two63 : Int) := by
  simp only [convertArgs, stdConv] at h
  cases ha : Strconv.parseDuration w with
  | none => rw [ha] at h; cases h
  | some j => rw [ha] at h; cases h; exact Strconv.parseDuration_range w _ ha

/-- **the empty word converts to nothing but a string**: `mage t ""` stops with status 2 for an `int`, `bool` or
`time.Duration` parameter (no "empty means zero" shortcut) -/
theorem empty_word_rejected (name : String) :
    convertArgs stdConv [⟨name, "int"⟩] [""] = .error (.badArg "int" "") ∧
    convertArgs stdConv [⟨name, "bool"⟩] [""] = .error (.badArg "bool" "") ∧
    convertArgs stdConv [⟨name, "time.Duration"⟩] [""] = .error (.badArg "time.Duration" "") ∧
    convertArgs stdConv [⟨name, "string"⟩] [""] = .ok [.str ""] := by
  have hb : Strconv.parseBool "" = none := by decide
  simp [convertArgs, stdConv, Strconv.atoi_empty, hb, Strconv.parseDuration_needs_unit.2.1]

/-- an unconvertible word stops the run with status 2 and **no** call, whatever follows -/
theorem unconvertible_stops (info : PkgInfo) (outcome : Call → Int) (fuel : Nat) (w a : String) (rest : List String)
    (f : Function) (name : String) (hr : resolve info w = some f) (hargs : f.args = [⟨name, "int"⟩])
    (ha : Strconv.atoi a = none) :
    dispatch info stdConv outcome (fuel + 1) (w :: a :: rest) = ⟨[], 2, some (.badArg "int" a)⟩ := by
  simp [dispatch, hr, hargs, convertArgs, stdConv, ha]

example : (dispatch exInfo stdConv (fun _ => 0) 9 ["B", "7", "CLEAN"]).status = 0 := by decide +kernel
example : (dispatch exInfo stdConv (fun _ => 0) 9 ["B", "", "CLEAN"]).status = 2 := by decide +kernel
example : (dispatch exInfo stdConv (fun _ => 0) 9 ["B", "0x7", "CLEAN"]).calls = [] := by decide +kernel

end MageModel.Props.C04
