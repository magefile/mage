import MageModel.Gen.StrconvLemmas
import MageModel.Invoke.Front
import MageModel.Gen.FlagsLemmas
import MageModel.Gen.MainLemmas
import MageModel.Invoke.Paths
import MageModel.Invoke.BuildEnvLemmas
/-!
# C11 — flags, environment and working directory reach the targets unchanged
All environments, all front-end flag values, all word lists.
-/
namespace MageModel.Props.C11
open MageModel.Parse MageModel.Gen MageModel.Gen.Flags MageModel.Invoke

/-- the six variables the front end sets for the child -/
def childKeys : List String :=
  ["MAGEFILE_VERBOSE", "MAGEFILE_LIST", "MAGEFILE_HELP", "MAGEFILE_DEBUG", "MAGEFILE_GOCMD", "MAGEFILE_TIMEOUT"]

/-- in reverse order of appending: the last binding of a key wins -/
theorem getenv_childEnv (fmtDur : Int → String) (E : Env) (inv : Inv) (k : String) :
    getenv (childEnv fmtDur E inv) k =
      if inv.timeout > 0 ∧ k = "MAGEFILE_TIMEOUT" then fmtDur inv.timeout
      else if inv.goCmd ≠ "" ∧ k = "MAGEFILE_GOCMD" then inv.goCmd
      else if k = "MAGEFILE_DEBUG" then formatBool inv.debug
      else if inv.help = true ∧ k = "MAGEFILE_HELP" then "1"
      else if inv.list = true ∧ k = "MAGEFILE_LIST" then "1"
      else if k = "MAGEFILE_VERBOSE" then formatBool inv.verbose
      else getenv E k := by
  simp only [childEnv, childBindings, ← List.append_assoc, getenv_append_opt, getenv_append_one]

/-- **The caller's environment reaches the targets unmodified apart from the MAGEFILE_* variables mage sets** —
whatever the values contain ('=', spaces, empty), including GOOS and GOARCH: the child's list is the caller's list
with bindings appended, never a split and re-join. -/
theorem env_passthrough (fmtDur : Int → String) (E : Env) (inv : Inv) (k : String) (hk : k ∉ childKeys) :
    getenv (childEnv fmtDur E inv) k = getenv E k := by
  simp only [childKeys, List.mem_cons, List.not_mem_nil, or_false, not_or] at hk
  simp [getenv_childEnv, hk]

theorem goos_goarch_passthrough (fmtDur : Int → String) (E : Env) (inv : Inv) :
    getenv (childEnv fmtDur E inv) "GOOS" = getenv E "GOOS" ∧ getenv (childEnv fmtDur E inv) "GOARCH" = getenv E "GOARCH" :=
  ⟨env_passthrough _ _ _ _ (by simp [childKeys]), env_passthrough _ _ _ _ (by simp [childKeys])⟩

section
variable (fmtDur : Int → String) (E : Env) (inv : Inv)

theorem envBool_childEnv_verbose :
    envBool (childEnv fmtDur E inv) "MAGEFILE_VERBOSE" = inv.verbose := by
  simp [envBool, getenv_childEnv, parseBool_formatBool]

theorem envBool_childEnv_list :
    envBool (childEnv fmtDur E inv) "MAGEFILE_LIST" = if inv.list then true else envBool E "MAGEFILE_LIST" := by
  cases h : inv.list <;> simp [envBool, getenv_childEnv, h] <;> decide   -- "1" parses as true

theorem envBool_childEnv_help :
    envBool (childEnv fmtDur E inv) "MAGEFILE_HELP" = if inv.help then true else envBool E "MAGEFILE_HELP" := by
  cases h : inv.help <;> simp [envBool, getenv_childEnv, h] <;> decide

end

-- `hne`: `envDur` reads "" as unset, so the text that travels must not be empty
theorem envDur_childEnv (E : Env) {pd : String → Option Int} {fmtDur : Int → String} {inv : Inv}
    (hrt : inv.timeout > 0 → pd (fmtDur inv.timeout) = some inv.timeout)
    (hne : inv.timeout > 0 → fmtDur inv.timeout ≠ "") :
    envDur pd (childEnv fmtDur E inv) "MAGEFILE_TIMEOUT" =
      if inv.timeout > 0 then inv.timeout else envDur pd E "MAGEFILE_TIMEOUT" := by
  by_cases h : inv.timeout > 0 <;> simp [envDur, getenv_childEnv, h, hrt, hne]

/-! ## the effective values inside the compiled magefile -/

/-- `mg.Verbose()` inside targets: the generated main re-exports the effective flag as "1"/"0" -/
def verboseVar (v : Bool) : String := if v then "1" else "0"
theorem accessor_verbose (v : Bool) : (parseBool (verboseVar v)).getD false = v := by cases v <;> decide

/-- **-v through `mage`**: the generated main, started by the front end, runs with exactly the front end's effective
verbosity (flag, or MAGEFILE_VERBOSE when the flag is absent; `-v=false` overrides the variable) -/
theorem verbose_through_mage (info : PkgInfo) (conv : Conv) (out : Call → Outcome) (fmtDur : Int → String) (E : Env) (inv : Inv) :
    (childMain info conv out (childEnv fmtDur E inv) (childArgv inv)).verbose = inv.verbose := by
  rw [childArgv, childMain_terminator, (childCore_opts ..).1, envBool_childEnv_verbose]

/-- **-debug through `mage`**: `mg.Debug()` inside targets reports the front end's effective value -/
theorem debug_through_mage (fmtDur : Int → String) (E : Env) (inv : Inv) :
    envFlag (childEnv fmtDur E inv) "MAGEFILE_DEBUG" = inv.debug := by
  simp [envFlag, getenv_childEnv, parseBool_formatBool]

/-- **-gocmd through `mage`**: `mg.GoCmd()` inside targets reports the command the front end used -/
theorem gocmd_through_mage (fmtDur : Int → String) (E : Env) (inv : Inv) (hg : inv.goCmd ≠ "") :
    envGoCmd (childEnv fmtDur E inv) = inv.goCmd := by
  simp [envGoCmd, getenv_childEnv, hg]

theorem timeout_through_mage_at (info : PkgInfo) (conv : Conv) (out : Call → Outcome) (fmtDur : Int → String) (E : Env) (inv : Inv)
    (hrt : inv.timeout > 0 → conv.parseDuration (fmtDur inv.timeout) = some inv.timeout)
    (hne : inv.timeout > 0 → fmtDur inv.timeout ≠ "") :
    (childMain info conv out (childEnv fmtDur E inv) (childArgv inv)).timeout =
      if inv.timeout > 0 then inv.timeout else envDur conv.parseDuration E "MAGEFILE_TIMEOUT" := by
  rw [childArgv, childMain_terminator, (childCore_opts ..).2, envDur_childEnv _ hrt hne]

/-- **-t through `mage`**: a positive timeout arrives as the same duration; without `-t` the variable of the caller's
environment decides, as it does for a compiled binary -/
theorem timeout_through_mage (info : PkgInfo) (conv : Conv) (out : Call → Outcome) (fmtDur : Int → String) (E : Env) (inv : Inv)
    (hrt : ∀ d, d > 0 → conv.parseDuration (fmtDur d) = some d) (hne : ∀ d, d > 0 → fmtDur d ≠ "") :
    (childMain info conv out (childEnv fmtDur E inv) (childArgv inv)).timeout =
      if inv.timeout > 0 then inv.timeout else envDur conv.parseDuration E "MAGEFILE_TIMEOUT" :=
  timeout_through_mage_at info conv out fmtDur E inv (hrt _) (hne _)

/-- the same with the transcribed `Duration.String` and `ParseDuration` (`Gen/Strconv.lean`): no hypothesis about the
standard library is left for a timeout whose text provably parses back — e.g. every entry of the decided tables
(`roundTrips_seconds_table`, `roundTrips_typical`); the round trip for *all* durations stays unproved -/
theorem timeout_through_mage_std (info : PkgInfo) (out : Call → Outcome) (E : Env) (inv : Inv)
    (hrt : inv.timeout > 0 → MageModel.Gen.Strconv.roundTrips inv.timeout = true) :
    (childMain info stdConv out (childEnv MageModel.Gen.Strconv.durString E inv) (childArgv inv)).timeout =
      if inv.timeout > 0 then inv.timeout else envDur stdConv.parseDuration E "MAGEFILE_TIMEOUT" := by
  have h1 : inv.timeout > 0 →
      stdConv.parseDuration (MageModel.Gen.Strconv.durString inv.timeout) = some inv.timeout := by
    intro h; simpa [MageModel.Gen.Strconv.roundTrips, stdConv] using hrt h
  refine timeout_through_mage_at info stdConv out _ E inv h1 ?_
  intro h he
  have := h1 h
  rw [he] at this
  simp [stdConv, MageModel.Gen.Strconv.parseDuration_needs_unit.2.1] at this   -- `.2.1`: parseDuration "" = none

/-- `mage -t 90s build`: the compiled program runs under exactly 90 s -/
example (info : PkgInfo) (out : Call → Outcome) (E : Env) (inv : Inv) (h : inv.timeout = 90000000000) :
    (childMain info stdConv out (childEnv MageModel.Gen.Strconv.durString E inv) (childArgv inv)).timeout = 90000000000 := by
  obtain ⟨-, -, -, -, h90s, -⟩ := MageModel.Gen.Strconv.roundTrips_typical
  rw [timeout_through_mage_std info out E inv (by rw [h]; exact fun _ => h90s)]
  simp [h]

/-! ## same effect as giving the flags to the compiled binary -/

/-- the flags of an invocation as one would type them to the compiled binary: `-v=` always, so that `-v=false` overrides
the variable; the others absent when false / zero -/
def compiledArgv (fmtDur : Int → String) (inv : Inv) : List String :=
  ["-v=" ++ formatBool inv.verbose] ++ (if inv.list then ["-l"] else []) ++ (if inv.help then ["-h"] else [])
    ++ (if inv.timeout > 0 then ["-t", fmtDur inv.timeout] else []) ++ ("--" :: inv.args)

/-- what the flag parser assigns on `compiledArgv`, in the order of the words -/
def compiledAssign (inv : Inv) : Assign :=
  [("v", .b inv.verbose)] ++ (if inv.list then [("l", .b true)] else []) ++ (if inv.help then [("h", .b true)] else [])
    ++ (if inv.timeout > 0 then [("t", .d inv.timeout)] else [])

theorem parse_compiledArgv {pd : String → Option Int} {fmtDur : Int → String} {inv : Inv}
    (hrt : inv.timeout > 0 → pd (fmtDur inv.timeout) = some inv.timeout) :
    parse childSpecs pd (compiledArgv fmtDur inv) [] = .ok (compiledAssign inv, inv.args) := by
  have hv : classify ("-v=" ++ formatBool inv.verbose) = .flag "v" (some (formatBool inv.verbose)) := by
    cases inv.verbose <;> decide +kernel
  have hl : classify "-l" = .flag "l" none := by decide
  have hh : classify "-h" = .flag "h" none := by decide
  have ht : classify "-t" = .flag "t" none := by decide
  simp only [compiledArgv, List.append_assoc]
  rw [List.singleton_append, parse_bool_eq childSpecs pd hv (by decide) (parseBool_formatBool _),
    parse_opt childSpecs pd ["-l"] fun _ _ => parse_bool_bare childSpecs pd hl (by decide),
    parse_opt childSpecs pd ["-h"] fun _ _ => parse_bool_bare childSpecs pd hh (by decide),
    parse_opt childSpecs pd ["-t", _] fun h _ => parse_dur_next childSpecs pd ht (by decide) (hrt h),
    parse_terminator]
  rfl

theorem lastVal_compiledAssign (inv : Inv) (n : String) :
    lastVal (compiledAssign inv) n =
      if inv.timeout > 0 ∧ n = "t" then some (.d inv.timeout)
      else if inv.help = true ∧ n = "h" then some (.b true)
      else if inv.list = true ∧ n = "l" then some (.b true)
      else if n = "v" then some (.b inv.verbose) else none := by
  have h1 : lastVal [("v", Val.b inv.verbose)] n = if n = "v" then some (.b inv.verbose) else none :=
    lastVal_append_one [] n "v" _
  simp only [compiledAssign, lastVal_append_opt, h1]

/-- only the round trip of the one duration that travels is needed -/
theorem same_effect_at (info : PkgInfo) (conv : Conv) (out : Call → Outcome) (fmtDur : Int → String) (E : Env) (inv : Inv)
    (hrt : inv.timeout > 0 → conv.parseDuration (fmtDur inv.timeout) = some inv.timeout)
    (hne : inv.timeout > 0 → fmtDur inv.timeout ≠ "") :
    childMain info conv out (childEnv fmtDur E inv) (childArgv inv) = childMain info conv out E (compiledArgv fmtDur inv) := by
  -- left: no flag is parsed, every option is what the environment says
  have ignoreDefault : envBool (childEnv fmtDur E inv) "MAGEFILE_IGNOREDEFAULT" = envBool E "MAGEFILE_IGNOREDEFAULT" := by
    simp [envBool, getenv_childEnv]
  rw [childArgv, childMain_terminator, envBool_childEnv_verbose, envBool_childEnv_list, envBool_childEnv_help,
    envDur_childEnv _ hrt hne, ignoreDefault]
  -- right: a flag that was given decides, else the caller's environment
  have verbose (d : Bool) : getBool (compiledAssign inv) "v" d = inv.verbose := by
    simp [getBool, lastVal_compiledAssign]
  have list (d : Bool) : getBool (compiledAssign inv) "l" d = if inv.list then true else d := by
    cases h : inv.list <;> simp [getBool, lastVal_compiledAssign, h]
  have help (d : Bool) : getBool (compiledAssign inv) "h" d = if inv.help then true else d := by
    cases h : inv.help <;> simp [getBool, lastVal_compiledAssign, h]
  have timeout (d : Int) : getDur (compiledAssign inv) "t" d = if inv.timeout > 0 then inv.timeout else d := by
    by_cases h : inv.timeout > 0 <;> simp [getDur, lastVal_compiledAssign, h]
  simp only [childMain, parse_compiledArgv hrt, verbose, list, help, timeout]
  rfl

/-- **Same effect through `mage` and through the compiled binary.**  For every package, environment, word list and
every front-end invocation: the generated main started by `mage` (flags translated to MAGEFILE_* variables, words
after `--`) does exactly what the compiled binary does when given `-v=<effective>`, `-l`, `-h`, `-t d` (d > 0)
itself in the caller's environment — same verbosity, same timeout, same listing/help decision, same targets run,
same status. -/
theorem same_effect (info : PkgInfo) (conv : Conv) (out : Call → Outcome) (fmtDur : Int → String) (E : Env) (inv : Inv)
    (hrt : ∀ d, d > 0 → conv.parseDuration (fmtDur d) = some d) (hne : ∀ d, d > 0 → fmtDur d ≠ "") :
    childMain info conv out (childEnv fmtDur E inv) (childArgv inv) = childMain info conv out E (compiledArgv fmtDur inv) :=
  same_effect_at info conv out fmtDur E inv (hrt _) (hne _)

/-- the residue (known finding C11:explicit-false-or-zero-flag-vs-env): an explicit `-t 0` (or a negative value)
given to `mage` is not forwarded, so MAGEFILE_TIMEOUT of the caller's environment wins, whereas the compiled binary
obeys its own `-t 0` -/
example :
    let conv : Conv := ⟨fun _ => none, fun _ => none, fun w => if w = "5s" then some 5000000000 else if w = "0" then some 0 else none⟩
    let E : Env := [("MAGEFILE_TIMEOUT", "5s")]
    (childMain { funcs := [] } conv (fun _ => .ok) (childEnv (fun _ => "") E { timeout := 0, args := ["x"] }) ["--", "x"]).timeout = 5000000000 ∧
    (childMain { funcs := [] } conv (fun _ => .ok) E ["-t", "0", "--", "x"]).timeout = 0 := by decide +kernel

/-- GOOS and GOARCH of the caller's environment reach the targets (`goos_goarch_passthrough`) but never the listing
of the magefiles or their compilation: both use `EnvWithGOOS`, whose GOOS/GOARCH are the flag values or the host's,
for every caller environment and every iteration order of the Go map it is built from. -/
theorem build_env_isolated (hostOS hostArch goos goarch : String) (E L : Env)
    (hp : L.Perm (BuildEnv.goosMap hostOS hostArch goos goarch E)) :
    getenv L "GOOS" = (if goos = "" then hostOS else goos) ∧ getenv L "GOARCH" = (if goarch = "" then hostArch else goarch) :=
  BuildEnv.platform_is_flag_or_host hostOS hostArch goos goarch E L hp

/-- targets run in `-w`; without it in `-d`; without both in the start directory — a magefiles directory changes
where the magefiles are read from, never where the targets run -/
theorem workdir (inv : Inv) :
    (inv.workDir ≠ "" → childDir inv = inv.workDir) ∧
    (inv.workDir = "" → inv.dir ≠ "" → childDir inv = inv.dir) ∧
    (inv.workDir = "" → inv.dir = "" → childDir inv = ".") := by
  refine ⟨?_, ?_, ?_⟩ <;> intros <;> simp_all [childDir]

/-- relative `-d`/`-w` are resolved against the directory mage was started in (the child is started from there) -/
example : Paths.absFrom "/start" (childDir { dir := "proj", workDir := "" }) = "/start/proj" := by decide +kernel
example : Paths.absFrom "/start" (childDir { dir := "proj", workDir := "../w" }) = "/w" := by decide +kernel
example : Paths.absFrom "/start" (childDir { dir := "", workDir := "" }) = "/start" := by decide +kernel

example : (frontParse (fun _ => none) [("MAGEFILE_VERBOSE", "1")] ["-v=false", "x"]) =
    .ok { verbose := false, args := ["x"], goCmd := "go", cacheDir := ".magefile" } .none := by decide +kernel
example : getenv (childEnv (fun _ => "1m0s") [("A", "b=c d"), ("GOOS", "plan9"), ("E", "")] { verbose := true, timeout := 60 }) "A" = "b=c d" := by decide +kernel

end MageModel.Props.C11
