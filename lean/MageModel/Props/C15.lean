import MageModel.Sh.ExecLemmas
/-!
# C15 — sh reports a command's outcome exactly
Quantifiers: every raw outcome (all exit codes, unbounded), every payload, every env map / inherited environment.
-/
namespace MageModel.Props.C15
open MageModel.Sh

theorem nil_iff_zero (raw : Raw) : (exec raw).2 = none ↔ raw = .exited 0 := by
  cases raw with
  | exited k => cases k <;> simp [exec, Raw.isNil, cmdRan]
  | signaled | startFailed => simp [exec, Raw.isNil, cmdRan]

theorem status_exact (k : Nat) (hk : k ≠ 0) :
    (exec (.exited k)).1 = true ∧ mgExitStatus (exec (.exited k)).2 = k ∧ shExitStatus (exec (.exited k)).2 = k := by
  cases k with
  | zero => exact absurd rfl hk
  | succ n => exact ⟨rfl, rfl, rfl⟩

theorem status_zero : exec (.exited 0) = (true, none) ∧ mgExitStatus none = 0 ∧ shExitStatus none = 0 :=
  ⟨rfl, rfl, rfl⟩

theorem not_started : (exec .startFailed).1 = false ∧ mgExitStatus (exec .startFailed).2 = 1 ∧
    shExitStatus (exec .startFailed).2 = 1 :=
  ⟨rfl, rfl, rfl⟩

/-- CmdRan / ExitStatus on the *raw* os/exec error give the same two answers as Exec's results
    (this is what the mage front end applies to the compiled binary, C05). -/
theorem raw_helpers_agree (raw : Raw) (h : raw ≠ .signaled) :
    cmdRan raw = (exec raw).1 ∧ exitStatusRaw raw = mgExitStatus (exec raw).2 := by
  cases raw with
  | exited k => cases k <;> exact ⟨rfl, rfl⟩
  | signaled => exact absurd rfl h
  | startFailed => exact ⟨rfl, rfl⟩

/-- mg.ExitStatus and sh.ExitStatus agree on every error Exec can build -/
theorem statuses_agree (raw : Raw) : mgExitStatus (exec raw).2 = shExitStatus (exec raw).2 := by
  rw [mgExitStatus_eq_sh]

/-! ### Output trims exactly one trailing newline -/

theorem trim_none (s : List Char) (h : s.getLast? ≠ some '\n') : trimOne s = s := by
  rw [List.getLast?_eq_head?_reverse] at h
  unfold trimOne
  split
  next r heq => rw [heq] at h; exact absurd rfl h
  next => rfl

/-- exactly one: two trailing newlines leave one -/
theorem trim_exactly_one (s : List Char) : trimOne (s ++ ['\n', '\n']) = s ++ ['\n'] := by
  have : s ++ ['\n', '\n'] = (s ++ ['\n']) ++ ['\n'] := by simp
  rw [this, trim_newline]

/-! ### env map overrides inherited variables, consistently in expansion and in the child -/

@[simp] private theorem lastFrom_nil (k : String) (acc : Option String) : lastFrom k acc [] = acc := rfl

/-- **Override consistency**: for every key, what `$KEY` expands to in the command line is what the child finds
in its environment: the map entry if the map has the key (also when its value is empty), else the inherited
value — whatever order the map was iterated in. -/
theorem override_consistent (E m mπ : List (String × String)) (k : String)
    (hE : (E.map Prod.fst).Nodup) (hm : (m.map Prod.fst).Nodup) (hπ : mπ.Perm m) :
    lookupExec m (getenv E) k = (childGetenv (childEnv E mπ) k).getD "" := by
  have hmπ : (mπ.map Prod.fst).Nodup := (hπ.map Prod.fst).nodup_iff.mpr hm
  rw [childGetenv_childEnv hE hmπ, perm_lookup hm hπ, lookupExec, getenv]
  cases m.lookup k <;> rfl

/-- map wins over inherited, in both places -/
theorem map_wins (E m : List (String × String)) (k v : String)
    (hE : (E.map Prod.fst).Nodup) (hm : (m.map Prod.fst).Nodup) (h : m.lookup k = some v) :
    lookupExec m (getenv E) k = v ∧ childGetenv (childEnv E m) k = some v := by
  refine ⟨by simp [lookupExec, h], ?_⟩
  rw [childGetenv_childEnv hE hm, h]; rfl

/-- inherited variables not mentioned in the map pass through -/
theorem inherited_passthrough (E m : List (String × String)) (k : String)
    (hE : (E.map Prod.fst).Nodup) (hm : (m.map Prod.fst).Nodup) (h : m.lookup k = none) :
    childGetenv (childEnv E m) k = getenv E k := by
  rw [childGetenv_childEnv hE hm, h, getenv]; rfl

/-- stdout is shown on the caller's stdout iff verbose, or a V variant; captured by Output*; stderr/stdin are not gated. -/
theorem stdout_gating (verbose : Bool) :
    stdoutSink verbose .run = (if verbose then .osStdout else .discard) ∧
    stdoutSink verbose .runWith = (if verbose then .osStdout else .discard) ∧
    stdoutSink verbose .runV = .osStdout ∧ stdoutSink verbose .runWithV = .osStdout ∧
    stdoutSink verbose .output = .buffer ∧ stdoutSink verbose .outputWith = .buffer := by
  simp [stdoutSink]

example : exec (.exited 94) = (true, some (.fatal 94)) := by decide
example : trimOne "a\n\n".toList = "a\n".toList := by decide
example : lookupExec [("K", "")] (getenv [("K", "inherited")]) "K" = "" := by decide
example : childGetenv (childEnv [("K", "inherited")] [("K", "")]) "K" = some "" := by decide
example : ([("A","1"),("B","2")].map Prod.fst).Nodup := by decide

end MageModel.Props.C15
