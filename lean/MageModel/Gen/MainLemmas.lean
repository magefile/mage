import MageModel.Gen.Main
import MageModel.Gen.FlagsLemmas
/-!
`childCore`, the part of the generated `main` after flag parsing, returns one of three record shapes: with that no proof
walks through its branches again.
-/
namespace MageModel.Gen
open MageModel.Parse MageModel.Gen.Flags

-- The result is a variable with an equation so that `refine childCore_cases r hr ?_ ?_ ?_` finds the motive.
@[elab_as_elim] theorem childCore_cases {P : ChildOut → Prop} {info : PkgInfo} {conv : Conv} {out : Call → Outcome}
    {v l h : Bool} {t : Int} {ign : Bool} {words : List String} (r : ChildOut)
    (hr : r = childCore info conv out v l h t ign words)
    (quiet : ∀ how, how = .usage ∨ how = .listed ∨ (∃ n, how = .helpShown n) →
      P { how, status := 0, verbose := v, timeout := t })
    (unknown : ∀ w, P { how := .helpUnknown w, status := 2, verbose := v, timeout := t })
    (ran : ∀ rr, rr = run info conv (fun c => (out c).status) ign words →
      P { how := if rr.2 then .listed else .ran, status := rr.1.status, calls := rr.1.calls, stop := rr.1.stop,
          verbose := v, timeout := t }) : P r := by
  subst hr
  unfold childCore
  split
  · exact quiet _ (.inl rfl)
  split
  · exact quiet _ (.inr (.inl rfl))
  split
  · split
    · exact quiet _ (.inl rfl)
    · split
      · exact quiet _ (.inr (.inr ⟨_, rfl⟩))
      · exact unknown _
  · exact ran _ rfl

theorem childCore_opts (info : PkgInfo) (conv : Conv) (out : Call → Outcome) (v l h : Bool) (t : Int) (ign : Bool)
    (words : List String) :
    (childCore info conv out v l h t ign words).verbose = v ∧ (childCore info conv out v l h t ign words).timeout = t :=
  childCore_cases (P := fun r => r.verbose = v ∧ r.timeout = t) _ rfl
    (fun _ _ => ⟨rfl, rfl⟩) (fun _ => ⟨rfl, rfl⟩) (fun _ _ => ⟨rfl, rfl⟩)

theorem childMain_terminator (info : PkgInfo) (conv : Conv) (out : Call → Outcome) (E : Env) (words : List String) :
    childMain info conv out E ("--" :: words) =
      childCore info conv out (envBool E "MAGEFILE_VERBOSE") (envBool E "MAGEFILE_LIST") (envBool E "MAGEFILE_HELP")
        (envDur conv.parseDuration E "MAGEFILE_TIMEOUT") (envBool E "MAGEFILE_IGNOREDEFAULT") words := by
  simp only [childMain, parse_terminator]; rfl   -- `childMain` spells `envBool E "MAGEFILE_IGNOREDEFAULT"` out

end MageModel.Gen
