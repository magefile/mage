import MageModel.Gen.List
namespace MageModel.Gen
open MageModel.Parse

/-- without `MAGEFILE_ENABLE_COLOR` (or on a terminal without colour) the environment does not matter -/
theorem listTextEnv_plain (env : String → Option String) (info : PkgInfo) (h : colorOn env = false) :
    listTextEnv env info = listText info := by
  unfold listTextEnv listText printName
  simp [h]

end MageModel.Gen
