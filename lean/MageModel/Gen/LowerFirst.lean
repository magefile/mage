import MageModel.Gen.Dispatch
/-! `lowerFirst` changes letter case only: `lower (lowerFirst s) = lower s`.  This is what makes every name printed by
`-l` runnable as printed (Props/C06 `listed_name_runs`).  `goToLower` is handled through the code point it returns. -/
namespace MageModel.Gen
open MageModel.Parse

theorem map_intercalate_map {α β} {g : α → β} {f : List α → List α} (hf : ∀ p, (f p).map g = p.map g) (sep : List α) :
    ∀ ps : List (List α), (sep.intercalate (ps.map f)).map g = (sep.intercalate ps).map g
  | [] => rfl
  | [p] => by simp [hf]
  | p :: q :: ps => by
    have ih := map_intercalate_map hf sep (q :: ps)
    simp only [List.map_cons] at ih
    simp only [List.map_cons, List.intercalate_cons_cons, List.map_append, hf, ih]

-- unfolds core's `Char.toLower` (a `UInt32` addition): tied to the toolchain's definition
theorem toLower_toNat (c : Char) : c.toLower.toNat = if 65 ≤ c.toNat ∧ c.toNat ≤ 90 then c.toNat + 32 else c.toNat := by
  have e : c.val ≥ 'A'.val ∧ c.val ≤ 'Z'.val ↔ 65 ≤ c.toNat ∧ c.toNat ≤ 90 := by
    simp only [ge_iff_le, UInt32.le_iff_toNat_le, Char.toNat_val]; rfl
  unfold Char.toLower
  split
  · next h =>
    have := e.mp h
    rw [if_pos this, Char.toNat_mk, UInt32.toNat_add]
    show (c.toNat + 32) % 2 ^ 32 = _
    omega
  · next h => rw [if_neg (mt e.mpr h)]

theorem ofNat_toNat_small (n : Nat) (h : n < 0xD800) : (Char.ofNat n).toNat = n := by
  have hv : n.isValidChar := Or.inl h
  simp [Char.ofNat, hv, Char.toNat, Char.ofNatAux]

theorem goToLower_toNat (c : Char) : (goToLower c).toNat =
    if 65 ≤ c.toNat ∧ c.toNat ≤ 90 ∨ (0xC0 ≤ c.toNat ∧ c.toNat ≤ 0xDE) ∧ c.toNat ≠ 0xD7 then c.toNat + 32 else c.toNat := by
  unfold goToLower isLatin1Upper
  simp only [Bool.and_eq_true, decide_eq_true_eq, bne_iff_ne, ne_eq]
  split
  · next h => rw [if_pos (Or.inr h), ofNat_toNat_small _ (by omega)]
  · next h => rw [toLower_toNat]; simp only [h, or_false]

theorem goToLower_idem (c : Char) : goToLower (goToLower c) = goToLower c := by
  apply Char.toNat_inj.mp
  rw [goToLower_toNat (goToLower c)]
  apply if_neg
  rw [goToLower_toNat c]
  -- a letter that moved (+32) lies outside both upper-case ranges
  split <;> omega

theorem map_goToLower_idem (l : List Char) : (l.map goToLower).map goToLower = l.map goToLower := by
  simp [goToLower_idem]

theorem map_goToLower_append (a b : List Char) :
    (a.map goToLower ++ b).map goToLower = (a ++ b).map goToLower := by
  rw [List.map_append, map_goToLower_idem, List.map_append]

theorem lower_lowerFirstWordL (cs : List Char) : (lowerFirstWordL cs).map goToLower = cs.map goToLower := by
  cases cs with
  | nil => rfl
  | cons c rest =>
    simp only [lowerFirstWordL]
    split
    · exact map_goToLower_idem _                          -- no leading capital: all lower
    · split
      · -- first regexp: capital, lower-case run, then a capital
        rw [map_goToLower_append, List.cons_append, List.takeWhile_append_dropWhile]
      · split
        · -- second regexp: a run of capitals, the last of which stays
          have hups : ∀ ups : List Char, ups.dropLast ++ ups.drop (ups.length - 1) = ups := fun ups => by
            rw [List.dropLast_eq_take, List.take_append_drop]
          rw [List.append_assoc, map_goToLower_append, ← List.append_assoc, hups, List.takeWhile_append_dropWhile]
        · exact map_goToLower_idem _                      -- neither matches: all lower

theorem lower_ofList (cs : List Char) : lower (String.ofList cs) = String.ofList (cs.map goToLower) := by
  rw [lower, String.toList_ofList]

theorem lower_lowerFirst (s : String) : lower (lowerFirst s) = lower s := by
  rw [lowerFirst, lower_ofList, map_intercalate_map lower_lowerFirstWordL, List.intercalate_splitOn, lower]

end MageModel.Gen
