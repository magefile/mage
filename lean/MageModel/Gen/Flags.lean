/-
Go's `flag.FlagSet.Parse` (src/flag/flag.go: parseOne/Parse with the zero-value error handling ContinueOnError)
transcribed over character lists, plus the environment rules both programs rely on.
All syntax characters ('-', '=') are ASCII, so for valid UTF-8 the byte-level Go code and this character-level
model agree (trusted; the differential streams contain multi-byte words).

Both `mage.Parse` (mage/main.go) and the generated `main` (mage/template.go) are instances: a table of flag
specifications, parsed left to right, stopping at the first non-flag word or after `--`.
-/
namespace MageModel.Gen.Flags

inductive Kind where | bool | dur | str
  deriving DecidableEq, Repr

structure Spec where
  name : String
  kind : Kind
  deriving DecidableEq, Repr

inductive Val where
  | b (v : Bool) | d (ns : Int) | s (v : String)
  deriving DecidableEq, Repr

inductive PErr where
  | badSyntax (word : String)        -- "bad flag syntax: %s"
  | notDefined (name : String)       -- "flag provided but not defined: -%s"
  | help                             -- flag.ErrHelp: -h / -help where no such flag is defined
  | badBool (name value : String)    -- "invalid boolean value %q for -%s"
  | needsArg (name : String)         -- "flag needs an argument: -%s"
  | badValue (name value : String)   -- "invalid value %q for flag -%s"
  deriving DecidableEq, Repr

/-- the error text of the flag package (`quote` is `%q`); a value that does not parse is reported as "parse error"
for booleans and durations alike -/
def PErr.message (quote : String → String) : PErr → String
  | .badSyntax w => "bad flag syntax: " ++ w
  | .notDefined n => "flag provided but not defined: -" ++ n
  | .help => "flag: help requested"
  | .badBool n v => "invalid boolean value " ++ quote v ++ " for -" ++ n ++ ": parse error"
  | .needsArg n => "flag needs an argument: -" ++ n
  | .badValue n v => "invalid value " ++ quote v ++ " for flag -" ++ n ++ ": parse error"

/-- `strconv.ParseBool`: exactly these twelve spellings -/
def parseBool (s : String) : Option Bool :=
  if s = "1" ∨ s = "t" ∨ s = "T" ∨ s = "TRUE" ∨ s = "true" ∨ s = "True" then some true
  else if s = "0" ∨ s = "f" ∨ s = "F" ∨ s = "FALSE" ∨ s = "false" ∨ s = "False" then some false
  else none

/-- `strconv.FormatBool` -/
def formatBool (b : Bool) : String := if b then "true" else "false"

/-- how one command-line word looks to `parseOne` -/
inductive Word where
  | nonFlag                                    -- shorter than 2, or not starting with '-': parsing stops, word stays
  | terminator                                 -- exactly "--": parsing stops, word is dropped
  | bad                                        -- "-", "---x", "-=x", "--=x" … : bad flag syntax
  | flag (name : String) (value : Option String)
  deriving DecidableEq, Repr

/-- split `name` at the first '=' that is not its first character -/
def splitEq : List Char → List Char → List Char × Option (List Char)
  | acc, [] => (acc.reverse, none)
  | acc, c :: rest => if c == '=' then (acc.reverse, some rest) else splitEq (c :: acc) rest

def classify (s : String) : Word :=
  match s.toList with
  | '-' :: c :: rest =>
    let name := if c == '-' then rest else c :: rest
    if c == '-' && rest.isEmpty then .terminator
    else match name with
      | [] => .bad
      | n0 :: nrest =>
        if n0 == '-' || n0 == '=' then .bad
        else
          let (nm, v) := splitEq [n0] nrest
          .flag (String.ofList nm) (v.map String.ofList)
  | _ => .nonFlag

abbrev Assign := List (String × Val)

/-- `Value.Set` for the three kinds of flag used by mage; `pd` is the recorded `time.ParseDuration` -/
def setVal (pd : String → Option Int) (k : Kind) (v : String) : Option Val :=
  match k with
  | .bool => (parseBool v).map .b
  | .dur => (pd v).map .d
  | .str => some (.s v)

/-- `FlagSet.Parse`: the assignments made, in order, and the remaining (non-flag) words -/
def parse (specs : List Spec) (pd : String → Option Int) : List String → Assign → Except PErr (Assign × List String)
  | [], acc => .ok (acc, [])
  | w :: rest, acc =>
    match classify w with
    | .nonFlag => .ok (acc, w :: rest)
    | .terminator => .ok (acc, rest)
    | .bad => .error (.badSyntax w)
    | .flag name value =>
      match specs.find? (fun sp => sp.name == name) with
      | none => if name == "help" || name == "h" then .error .help else .error (.notDefined name)
      | some sp =>
        match sp.kind, value with
        | .bool, none => parse specs pd rest (acc ++ [(name, .b true)])
        | .bool, some v =>
          match parseBool v with
          | some b => parse specs pd rest (acc ++ [(name, .b b)])
          | none => .error (.badBool name v)
        | k, some v =>
          match setVal pd k v with
          | some x => parse specs pd rest (acc ++ [(name, x)])
          | none => .error (.badValue name v)
        | k, none =>
          match rest with
          | [] => .error (.needsArg name)
          | v :: rest' =>
            match setVal pd k v with
            | some x => parse specs pd rest' (acc ++ [(name, x)])
            | none => .error (.badValue name v)

/-- final value of a flag: the last assignment, else the default -/
def lastVal (a : Assign) (name : String) : Option Val :=
  (a.reverse.find? (fun p => p.1 == name)).map (·.2)

def getBool (a : Assign) (name : String) (dflt : Bool) : Bool :=
  match lastVal a name with | some (.b v) => v | _ => dflt
def getDur (a : Assign) (name : String) (dflt : Int) : Int :=
  match lastVal a name with | some (.d v) => v | _ => dflt
def getStr (a : Assign) (name : String) (dflt : String) : String :=
  match lastVal a name with | some (.s v) => v | _ => dflt

/-! ### Environments -/

abbrev Env := List (String × String)

/-- `os.Getenv` in a process started with environment list `E` by os/exec (`dedupEnv`: the LAST binding of a key
wins); "" when unset -/
def getenv (E : Env) (k : String) : String :=
  match E.reverse.find? (fun p => p.1 == k) with
  | some p => p.2
  | none => ""

end MageModel.Gen.Flags
