import MageModel.Gen.Dispatch
import MageModel.Gen.Flags
import MageModel.Deps.Sem
/-
The generated `main` (mage/template.go) as a function from (environment, argv) to what the process does:
flag defaults from MAGEFILE_* variables, flag parsing, `-h`, `-l`, default target, dispatch loop, `handleError`.
What a target *does* is a parameter: `outcome : Call → Outcome`.
-/
namespace MageModel.Gen
open MageModel.Parse MageModel.Gen.Flags

/-- What running one target function ends in, as seen by `runTarget` (which recovers panics) and `handleError`. -/
inductive Outcome where
  | ok
  | err (code : Option Int)        -- returned error; `some c` when it has `ExitStatus() = c` (mg.Fatal, failed sh command)
  | panicErr (code : Option Int)   -- panic(error value); recovered by runTarget, same treatment
  | panicVal                       -- panic with a non-error value
  | depsFailed (codes : List Int)  -- mg.Deps & co. panic with mg.Fatal(fold changeExit codes, …)
  | osExit (code : Int)            -- the target calls os.Exit itself
  deriving DecidableEq, Repr

/-- `handleError`: nil → keep going (0); a value with `ExitStatus()` → that; anything else → 1.
`os.Exit` in the target bypasses it. -/
def Outcome.status : Outcome → Int
  | .ok => 0
  | .err (some c) => c
  | .err none => 1
  | .panicErr (some c) => c
  | .panicErr none => 1
  | .panicVal => 1
  | .depsFailed codes => codes.foldl MageModel.Deps.changeExit 0
  | .osExit c => c

/-- does `handleError` (or the runtime) write a message to stderr before the process ends? -/
def Outcome.isFailure (o : Outcome) : Bool := o != .ok

/-- flag table of the generated main (template.go: fs.BoolVar/DurationVar) -/
def childSpecs : List Spec := [⟨"v", .bool⟩, ⟨"l", .bool⟩, ⟨"h", .bool⟩, ⟨"t", .dur⟩]

/-- the template's `parseBool(env)`: "" → false, invalid → false (with a warning) -/
def envBool (E : Env) (k : String) : Bool := (parseBool (getenv E k)).getD false

/-- the template's `parseDuration(env)`: "" → 0, invalid → 0 (with a warning) -/
def envDur (pd : String → Option Int) (E : Env) (k : String) : Int :=
  if getenv E k = "" then 0 else (pd (getenv E k)).getD 0

inductive How where
  | flagError (e : PErr)     -- exit 2 (message printed by package flag)
  | usage                    -- -h without words, or -help: exit 0
  | listed                   -- -l, or no words and (no default or MAGEFILE_IGNOREDEFAULT): exit 0
  | helpShown (target : String)
  | helpUnknown (word : String)   -- exit 2
  | ran                      -- targets were dispatched (see `result`)
  deriving DecidableEq, Repr

structure ChildOut where
  how : How
  status : Int
  calls : List Call := []
  stop : Option Stop := none
  verbose : Bool := false        -- the effective value: what mg.Verbose() reports inside targets
  timeout : Int := 0             -- the effective -t (ns)
  deriving DecidableEq, Repr

/-- `-h <word>`: the help switch looks the lower-cased word up among the targets (aliases are NOT resolved) -/
def helpLookup (info : PkgInfo) (w : String) : Option Function :=
  (allTargets info).find? fun f => lower f.targetName == lower w

/-- the generated main after its flags and defaults are settled -/
def childCore (info : PkgInfo) (conv : Conv) (outcome : Call → Outcome) (verbose list help : Bool) (timeout : Int)
    (ignoreDefault : Bool) (words : List String) : ChildOut :=
  if help && words.isEmpty then { how := .usage, status := 0, verbose, timeout }
  else if list then { how := .listed, status := 0, verbose, timeout }
  else if help then
    match words with
    | [] => { how := .usage, status := 0, verbose, timeout }      -- not reached
    | w :: _ =>
      match helpLookup info w with
      | some f => { how := .helpShown f.targetName, status := 0, verbose, timeout }
      | none => { how := .helpUnknown w, status := 2, verbose, timeout }
  else
    let (r, listed) := run info conv (fun c => (outcome c).status) ignoreDefault words
    { how := if listed then .listed else .ran, status := r.status, calls := r.calls, stop := r.stop, verbose, timeout }

/-- the generated main: `E` is the environment the process was started with, `argv` = os.Args[1:] -/
def childMain (info : PkgInfo) (conv : Conv) (outcome : Call → Outcome) (E : Env) (argv : List String) : ChildOut :=
  match parse childSpecs conv.parseDuration argv [] with
  | .error .help => { how := .usage, status := 0 }
  | .error e => { how := .flagError e, status := 2 }
  | .ok (a, words) =>
    childCore info conv outcome
      (getBool a "v" (envBool E "MAGEFILE_VERBOSE")) (getBool a "l" (envBool E "MAGEFILE_LIST"))
      (getBool a "h" (envBool E "MAGEFILE_HELP")) (getDur a "t" (envDur conv.parseDuration E "MAGEFILE_TIMEOUT"))
      ((parseBool (getenv E "MAGEFILE_IGNOREDEFAULT")).getD false) words

end MageModel.Gen
