import MageModel.Gen.Strconv
import MageModel.Gen.Dispatch
/-! The transcribed conversions packed as the `Conv` the dispatcher takes, and the test `Duration.String` then
`ParseDuration` gives the duration back (how `-t d` travels from `mage` to the compiled program). -/

namespace MageModel.Gen
/-- the conversions the generated program really uses: the transcribed standard-library functions -/
def stdConv : Conv := ⟨Strconv.atoi, Strconv.parseBool, Strconv.parseDuration⟩
end MageModel.Gen

namespace MageModel.Gen.Strconv

def roundTrips (d : Int) : Bool := parseDuration (durString d) == some d

end MageModel.Gen.Strconv
