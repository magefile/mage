import MageModel.Gen.StdConv
import MageModel.Gen.Flags
/-! Facts about the transcribed conversions (`Gen/Strconv.lean`) that hold for every word; the round trip through
`durString` is tested on finite tables only. -/
namespace MageModel.Gen.Strconv

theorem two63_pos : 0 < two63 := by decide

theorem ofDigitChars_ge (ds : List Char) (acc : Nat) : acc ≤ Nat.ofDigitChars 10 ds acc := by
  rw [Nat.ofDigitChars_eq_ofDigitChars_zero]
  have : 1 ≤ 10 ^ ds.length := Nat.pow_pos (by decide)
  calc acc = 1 * acc := by omega
    _ ≤ 10 ^ ds.length * acc := Nat.mul_le_mul_right _ this
    _ ≤ _ := Nat.le_add_right _ _

theorem digitsVal_eq (cs : List Char) (acc : Nat) :
    digitsVal cs acc = if cs.all Char.isDigit then some (Nat.ofDigitChars 10 cs acc) else none := by
  induction cs generalizing acc with
  | nil => rfl
  | cons c cs ih => cases hc : c.isDigit <;> simp [digitsVal, hc, ih, Nat.ofDigitChars_cons]

theorem splitSign_digit {c : Char} (r : List Char) (hc : c.isDigit = true) : splitSign (c :: r) = (false, c :: r) := by
  unfold splitSign
  split
  · next heq => cases heq; exact absurd hc (by decide)
  · next heq => cases heq; exact absurd hc (by decide)
  · rfl

theorem toDigits_digits (n : Nat) : ∃ d ds, Nat.toDigits 10 n = d :: ds ∧ ∀ x ∈ d :: ds, x.isDigit = true := by
  cases h : Nat.toDigits 10 n with
  | nil => exact absurd h Nat.toDigits_ne_nil
  | cons d ds => exact ⟨d, ds, rfl, fun x hx => Nat.isDigit_of_mem_toDigits (by decide) (by decide) (h ▸ hx)⟩

theorem atoiCore_digits (neg : Bool) (n : Nat) :
    atoiCore neg (Nat.toDigits 10 n) =
      if neg then (if n ≤ two63 then some (-(n : Int)) else none) else (if n < two63 then some (n : Int) else none) := by
  have hall : (Nat.toDigits 10 n).all Char.isDigit = true :=
    List.all_eq_true.mpr fun _ hc => Nat.isDigit_of_mem_toDigits (by decide) (by decide) hc
  simp [atoiCore, Nat.toDigits_ne_nil, digitsVal_eq, hall, Nat.ofDigitChars_ten_toDigits]

/-- the decimal numeral of a natural number below 2^63 converts to that number: what `fmt`/`strconv.Itoa` print
for a non-negative `int`, Atoi reads back -/
theorem atoi_repr (n : Nat) (h : n < two63) : atoi (Nat.repr n) = some (n : Int) := by
  obtain ⟨d, ds, hds, hdig⟩ := toDigits_digits n
  -- expose the head digit to dismiss the sign, then fold the numeral back
  rw [atoi, Nat.toList_repr, hds, splitSign_digit ds (hdig d List.mem_cons_self), ← hds, atoiCore_digits]
  simp [h]

/-- … and with a minus sign, down to −2^63 -/
theorem atoi_neg_repr (n : Nat) (h : n ≤ two63) : atoi ("-" ++ Nat.repr n) = some (-(n : Int)) := by
  rw [atoi, String.toList_append, Nat.toList_repr]
  show atoiCore true (Nat.toDigits 10 n) = _
  rw [atoiCore_digits]; simp [h]

theorem atoiCore_range {neg : Bool} {ds : List Char} {i : Int} (h : atoiCore neg ds = some i) :
    -(two63 : Int) ≤ i ∧ i < (two63 : Int) := by
  have := two63_pos
  unfold atoiCore at h
  cases hd : digitsVal ds 0 with
  | none => simp [hd] at h
  | some n =>
    cases neg
    · simp [hd] at h; omega             -- no minus: `n < 2^63` was tested
    · simp [hd] at h; omega             -- minus: `n ≤ 2^63` was tested

/-- whatever Atoi accepts is an `int` (64 bits) -/
theorem atoi_range (s : String) (i : Int) (h : atoi s = some i) : -(two63 : Int) ≤ i ∧ i < (two63 : Int) :=
  atoiCore_range h

theorem atoi_empty : atoi "" = none := by decide
theorem atoi_sign_only : atoi "-" = none ∧ atoi "+" = none := by decide

theorem atoiCore_rejects (neg : Bool) (pre : List Char) {c : Char} (post : List Char) (hc : c.isDigit = false) :
    atoiCore neg (pre ++ c :: post) = none := by
  simp [atoiCore, digitsVal_eq, hc]

/-- any non-digit after the optional sign makes Atoi fail: no blanks, underscores, base prefixes, exponents, second
signs -/
theorem atoi_rejects (s : String) (pre : List Char) (c : Char) (post : List Char)
    (h : (splitSign s.toList).2 = pre ++ c :: post) (hc : c.isDigit = false) : atoi s = none := by
  unfold atoi; rw [h]; exact atoiCore_rejects _ pre post hc

example : atoi "1_000" = none ∧ atoi "0x10" = none ∧ atoi " 1" = none ∧ atoi "--1" = none ∧ atoi "1e3" = none := by decide +kernel

/-- the flag package and the target arguments use one and the same `ParseBool` -/
theorem parseBool_eq_flags : parseBool = Flags.parseBool := rfl

theorem parseBool_true_iff (s : String) :
    parseBool s = some true ↔ s ∈ ["1", "t", "T", "TRUE", "true", "True"] := by
  simp only [parseBool, List.mem_cons, List.mem_nil_iff, or_false]
  split
  · simp [*]
  · split <;> simp [*]

theorem parseBool_false_iff (s : String) :
    parseBool s = some false ↔ s ∈ ["0", "f", "F", "FALSE", "false", "False"] := by
  simp only [parseBool, List.mem_cons, List.mem_nil_iff, or_false]
  split
  · -- a spelling of `true` is none of `false`
    next h => rcases h with rfl | rfl | rfl | rfl | rfl | rfl <;> simp
  · split <;> simp [*]

theorem groups_le (fuel : Nat) (cs : List Char) (d r : Nat) (h : groups fuel cs d = some r) (hd : d ≤ two63) :
    r ≤ two63 := by
  fun_induction groups fuel cs d with
  | case1 => cases h                                       -- out of fuel
  | case2 => cases h; exact hd                             -- input used up
  | case3 => cases h                                       -- the group does not parse
  | case4 => cases h                                       -- the running total overflows
  | case5 _ _ _ _ _ _ _ hov ih => exact ih h (by omega)    -- the loop goes on with a total ≤ 2^63

theorem durCore_range {neg : Bool} {r : List Char} {d : Int} (h : durCore neg r = some d) :
    -(two63 : Int) ≤ d ∧ d < (two63 : Int) := by
  have := two63_pos
  unfold durCore at h
  by_cases h0 : r = ['0']
  · rw [if_pos h0] at h; cases h; omega
  · cases hg : groups (r.length + 1) r 0 with
    | none => simp [h0, hg] at h
    | some n =>
      have hn := groups_le _ _ _ _ hg (Nat.zero_le _)
      cases neg
      · simp [h0, hg] at h; omega         -- no minus: `n ≤ 2^63 - 1` was tested
      · simp [h0, hg] at h; omega         -- minus: `n ≤ 2^63` by `groups_le`

/-- whatever ParseDuration accepts is an `int64` number of nanoseconds -/
theorem parseDuration_range (s : String) (d : Int) (h : parseDuration s = some d) :
    -(two63 : Int) ≤ d ∧ d < (two63 : Int) := durCore_range h

theorem parseDuration_zero : parseDuration "0" = some 0 ∧ parseDuration "-0" = some 0 ∧ parseDuration "+0" = some 0 := by decide
theorem parseDuration_needs_unit : parseDuration "3" = none ∧ parseDuration "" = none ∧ parseDuration "1.5" = none := by decide +kernel
theorem parseDuration_examples :
    parseDuration "1h2m3.5s" = some 3723500000000 ∧ parseDuration "1.5h" = some 5400000000000 ∧
    parseDuration ".5s" = some 500000000 ∧ parseDuration "1µs" = some 1000 ∧ parseDuration "-2ms" = some (-2000000) := by
  decide +kernel

theorem leadingInt_digits (ds : List Char) (c : Char) (rest : List Char) (acc : Nat)
    (hd : ∀ x ∈ ds, x.isDigit = true) (hc : c.isDigit = false)
    (hfit : Nat.ofDigitChars 10 ds acc ≤ two63) :
    leadingInt (ds ++ c :: rest) acc = some (Nat.ofDigitChars 10 ds acc, c :: rest) := by
  induction ds generalizing acc with
  | nil => simp [leadingInt, hc]
  | cons d ds ih =>
    have hdd := hd d (by simp)
    simp only [List.cons_append, leadingInt, hdd, if_true, Nat.ofDigitChars_cons] at *
    have hy : 10 * acc + (d.toNat - '0'.toNat) ≤ two63 := Nat.le_trans (ofDigitChars_ge ds _) hfit
    -- the two overflow guards pass by `hy`; `leadingInt` writes `x * 10`, `ofDigitChars` `10 * x`
    rw [if_neg (by omega), if_neg (by omega), Nat.mul_comm acc 10]
    exact ih _ (fun x hx => hd x (List.mem_cons_of_mem _ hx)) hfit

theorem spanUnit_all {ucs : List Char} (h : ∀ x ∈ ucs, (x == '.' || x.isDigit) = false) : spanUnit ucs = (ucs, []) := by
  induction ucs with
  | nil => rfl
  | cons c cs ih =>
    have hc := h c (by simp)
    simp only [spanUnit, hc]
    rw [ih (fun x hx => h x (List.mem_cons_of_mem _ hx))]
    simp

theorem unitOf_pos {u : String} {unit : Nat} (h : unitOf u = some unit) : 0 < unit := by
  -- one step down the table: an entry is positive, or the rest of the table answers
  have step : ∀ {c : Prop} [Decidable c] {a : Nat} {o : Option Nat}, 0 < a → (∀ x, o = some x → 0 < x) →
      ∀ x, (if c then some a else o) = some x → 0 < x := fun ha ho x hx => by
    split at hx
    · cases hx; exact ha
    · exact ho x hx
  exact step (by decide) (step (by decide) (step (by decide) (step (by decide) (step (by decide)
    (step (by decide) (fun _ hx => by cases hx)))))) unit h

theorem group1_whole {d0 : Char} {ds : List Char} {c : Char} {rest : List Char} {unit : Nat}
    (hdig : ∀ x ∈ d0 :: ds, x.isDigit = true)
    (hu : ∀ x ∈ c :: rest, (x == '.' || x.isDigit) = false)
    (hunit : unitOf (String.ofList (c :: rest)) = some unit)
    (hfit : Nat.ofDigitChars 10 (d0 :: ds) 0 * unit < two63) :
    group1 d0 (ds ++ c :: rest) = some (Nat.ofDigitChars 10 (d0 :: ds) 0 * unit, []) := by
  have hli := leadingInt_digits (d0 :: ds) c rest 0 hdig
  generalize Nat.ofDigitChars 10 (d0 :: ds) 0 = n at hfit hli ⊢
  have hpos := unitOf_pos hunit
  have hd0 : d0.isDigit = true := hdig d0 List.mem_cons_self
  obtain ⟨hcdot, hcd⟩ := Bool.or_eq_false_iff.mp (hu c List.mem_cons_self)
  have hcdot : c ≠ '.' := ne_of_beq_false hcdot
  have hn : n ≤ two63 := Nat.le_of_lt (Nat.lt_of_le_of_lt (Nat.le_mul_of_pos_right n hpos) hfit)
  have hle : ¬ n > two63 / unit := Nat.not_lt.mpr ((Nat.le_div_iff_mul_le hpos).2 (Nat.le_of_lt hfit))
  unfold group1
  simp only [hd0, Bool.or_true, Bool.not_true, Bool.false_eq_true, if_false, ← List.cons_append, hli hcd hn]
  split                                   -- does what `leadingInt` left start with a `.`?
  · next r heq => simp only [List.cons.injEq] at heq; exact absurd heq.1 hcdot
  · -- no fraction: `f = 0`, `post = false`.  The flag `pre`: `leadingInt` consumed the digits, what is left is
    -- shorter than the input
    have hpre : (c :: rest).length ≠ (d0 :: ds ++ c :: rest).length := by
      simp only [List.length_cons, List.length_append]; omega
    -- the guards in turn: `!pre && !post` by `hpre`; the unit is all of `c :: rest` (`spanUnit_all`), not empty,
    -- known (`hunit`); `v > two63 / unit` by `hle`; the last `simp` evaluates the `f > 0` guards at `f = 0`
    simp only [spanUnit_all hu, hunit, hle, hpre, ne_eq, not_false_eq_true, decide_true]
    simp

/-- **a whole number of a unit**: `<decimal n><unit>` is `n · unit` nanoseconds whenever that fits an `int64`
(`-t 90s`, `MAGEFILE_TIMEOUT=5m`, a `time.Duration` argument `2h`) -/
theorem parseDuration_whole (n : Nat) (c : Char) (rest : List Char) (unit : Nat)
    (hu : ∀ x ∈ c :: rest, (x == '.' || x.isDigit) = false)
    (hunit : unitOf (String.ofList (c :: rest)) = some unit) (hfit : n * unit < two63) (hpos : 0 < unit) :
    parseDuration (Nat.repr n ++ String.ofList (c :: rest)) = some ((n * unit : Nat) : Int) := by
  obtain ⟨d0, ds, hds, hdig⟩ := toDigits_digits n
  have hval : Nat.ofDigitChars 10 (d0 :: ds) 0 = n := by rw [← hds]; exact Nat.ofDigitChars_ten_toDigits
  have hg := group1_whole hdig hu hunit (hval ▸ hfit)
  rw [hval] at hg
  rw [parseDuration, String.toList_append, Nat.toList_repr, String.toList_ofList, hds, List.cons_append,
    splitSign_digit _ (hdig d0 List.mem_cons_self)]
  have := two63_pos
  have h1 : ¬ two63 < n * unit := by omega
  have h2 : ¬ two63 - 1 < n * unit := by omega
  simp [durCore, groups, hg, h1, h2]

example : parseDuration "90s" = some 90000000000 := by decide +kernel

/-! ### Duration.String and the way back (how `-t d` travels from `mage` to the compiled program)

The general round trip `parseDuration (durString d) = some d` is **not** proved (it needs exactness of the binary64
path for ≤ 9 fraction digits); the stream `conv` compares it on every generated duration.  What is decided here is a
finite table — a test inside the kernel, not the unbounded claim. -/

theorem durString_examples :
    durString 0 = "0s" ∧ durString 1500000000 = "1.5s" ∧ durString 90000000000 = "1m30s" ∧
    durString 3600000000000 = "1h0m0s" ∧ durString 1001 = "1.001µs" ∧ durString (-250000000) = "-250ms" := by decide +kernel

/-- every whole number of seconds from 1 s to 60 s (a test over a finite table) -/
theorem roundTrips_seconds_table : ∀ n < 60, roundTrips (((n + 1) * 1000000000 : Nat) : Int) = true := by
  decide +kernel

/-- typical `-t` values, with fractions and several units (a test over a finite table) -/
theorem roundTrips_typical :
    roundTrips 1 = true ∧ roundTrips 1000000 = true ∧ roundTrips 250000000 = true ∧ roundTrips 1500000000 = true ∧
    roundTrips 90000000000 = true ∧ roundTrips 300000000000 = true ∧ roundTrips 3600000000000 = true ∧
    roundTrips 5400000000000 = true ∧ roundTrips 123456789 = true ∧ roundTrips 3723004005006 = true ∧
    roundTrips 9223372036854775807 = true := by
  decide +kernel

end MageModel.Gen.Strconv
