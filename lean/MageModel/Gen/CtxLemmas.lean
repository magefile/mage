import MageModel.Gen.Ctx
/-!
Lemmas about `Gen/Ctx.lean`: `dlHit` and `sigHit` read off the order of the times, in the form C12's hypotheses have, and
the step of `runFrom` when neither fires.
-/
namespace MageModel.Gen.Ctx

theorem sibling_failure_never_cancels (style : Style) (dl sig : Bool) :
    depCancelled style dl sig true = depCancelled style dl sig false := rfl

theorem plain_deps_never_cancelled (dl sig sib : Bool) : depCancelled .deps dl sig sib = false := rfl

@[simp] theorem sigDuring_none (s : Nat) : sigDuring none s = none := rfl

theorem dlHit_eq_true {sig : Option Nat} {D n : Nat} (hD : D < n) (hsig : ∀ g, sig = some g → D < g) :
    dlHit (some D) sig n = true := by
  cases sig with
  | none => simp [dlHit, hD]
  | some g => simp [dlHit, hD, hsig g rfl]

theorem dlHit_eq_false {dl sig : Option Nat} {n : Nat} (h : ∀ D, dl = some D → n ≤ D ∨ ∃ g, sig = some g ∧ g ≤ D) :
    dlHit dl sig n = false := by
  cases dl with
  | none => rfl
  | some D =>
    simp only [dlHit, Bool.and_eq_false_iff, decide_eq_false_iff_not, Nat.not_lt]
    rcases h D rfl with hn | ⟨g, rfl, hg⟩
    · exact .inl hn
    · exact .inr (by simpa using hg)

theorem sigHit_eq_true {dl : Option Nat} {g n : Nat} (hg : g < n) (hdl : ∀ D, dl = some D → g ≤ D) :
    sigHit dl (some g) n = true := by
  cases dl with
  | none => simp [sigHit, hg]
  | some D => simp [sigHit, hg, hdl D rfl]

theorem sigHit_eq_false {dl sig : Option Nat} {n : Nat} (h : ∀ g, sig = some g → n ≤ g) : sigHit dl sig n = false := by
  cases sig with
  | none => rfl
  | some g =>
    simp only [sigHit, Bool.and_eq_false_iff, decide_eq_false_iff_not, Nat.not_lt]
    exact .inl (h g rfl)

theorem runFrom_quiet {e : Env} {dl : Option Nat} {i s : Nat} {t : Target} {rest : List Target} {started saw : List Nat}
    (hdl : ∀ D, dl = some D → s + t.dur ≤ D) (hsig : ∀ g, sigDuring e.sig1 s = some g → s + t.dur ≤ g) :
    runFrom e dl false i s (t :: rest) started saw =
      if t.status ≠ 0 then ⟨.targetFailed i t.status, s + t.dur, started ++ [i], saw⟩
      else runFrom e dl false (i+1) (s + t.dur) rest (started ++ [i]) saw := by
  simp only [runFrom, dlHit_eq_false fun D hD => .inl (hdl D hD), sigHit_eq_false hsig, Bool.false_eq_true, if_false]

end MageModel.Gen.Ctx
