import MageModel.Gen.Dispatch
import MageModel.Assoc
/-! `resolve` through its two equations: the alias switch decides which lower-cased name the target switch looks up. -/
namespace MageModel.Gen
open MageModel.Parse

theorem resolve_alias {info : PkgInfo} {w a : String} {f : Function}
    (h : info.aliases.find? (fun x => lower x.1 == lower w) = some (a, f)) :
    resolve info w = (allTargets info).find? fun g => lower g.targetName == lower f.targetName := by
  unfold resolve; rw [h]

theorem resolve_no_alias {info : PkgInfo} {w : String}
    (h : info.aliases.find? (fun x => lower x.1 == lower w) = none) :
    resolve info w = (allTargets info).find? fun g => lower g.targetName == lower w := by
  unfold resolve; rw [h]

theorem resolve_own_name {info : PkgInfo} {f : Function} (hf : f ∈ allTargets info)
    (hnames : ((allTargets info).map fun g => lower g.targetName).Nodup)
    (halias : ∀ a ∈ info.aliases, lower a.1 ≠ lower f.targetName)
    {w : String} (hw : lower w = lower f.targetName) : resolve info w = some f := by
  rw [resolve_no_alias, hw]
  · exact find?_key_of_nodup (fun g : Function => lower g.targetName) hnames hf
  · rw [List.find?_eq_none, hw]
    exact fun a ha => by simpa using halias a ha

theorem convertArgs_error_badArg {conv : Conv} {as : List Arg} {ws : List String} {e : Stop}
    (h : convertArgs conv as ws = .error e) : ∃ k w, e = .badArg k w := by
  fun_induction convertArgs conv as ws with
  | case1 | case2 | case5 => cases h   -- no parameter left; no word left; every word converts
  | case3 a as w ws v e hv =>          -- this word does not convert: `hv` says so of the `match` on the type
    cases h
    simp only [v] at hv
    split at hv
    · cases hv                                         -- "string"
    · split at hv <;> cases hv; exact ⟨_, _, rfl⟩      -- "int"
    · split at hv <;> cases hv; exact ⟨_, _, rfl⟩      -- "bool"
    · split at hv <;> cases hv; exact ⟨_, _, rfl⟩      -- "time.Duration"
    · cases hv                                         -- any other type is taken as a string
  | case4 a as w ws v v1 hv e he ih =>  -- this word converts, a later one does not
    cases h
    exact ih he

end MageModel.Gen
