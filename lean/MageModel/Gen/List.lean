import MageModel.Gen.Dispatch
import MageModel.Gen.Flags
/-!
# What the generated main prints for `-l` and for `-h <target>`

The `list` closure of the template builds a Go map literal `targets` (key: `lowerFirst TargetName`, starred for the
default target; value: the synopsis), sorts the keys with `sort.Strings` and writes `"  key\tsynopsis\n"` lines through
`text/tabwriter` (min width 0, tab width 4, padding 4, pad character blank, no flags).  Every line has exactly one
tab-terminated cell, so there is one column, as wide as the widest `"  key"` plus the padding; the synopsis is the
trailing cell and is written as it is (go/doc's synopsis contains neither tabs nor line breaks).
`-h <target>` prints the one-line comment, the usage line and the aliases that run this target.
Colour (`MAGEFILE_ENABLE_COLOR`, `MAGEFILE_TARGET_COLOR`, `TERM`) wraps each key in an ANSI sequence before the
tabwriter measures it.
-/
namespace MageModel.Gen
open MageModel.Parse

/-- key of a target in the `targets` map of the generated `list` -/
def listKey (info : PkgInfo) (f : Function) : String :=
  lowerFirst f.targetName ++ (match info.defaultFunc with
    | some d => if d.name ≠ "" && d.targetName == f.targetName then "*" else ""
    | none => "")

/-- the rows of the table before sorting: one per target, own targets first, then the imports' in order -/
def listRows (info : PkgInfo) : List (String × String) :=
  (allTargets info).map fun f => (listKey info f, f.synopsis)

/-! ### colour -/
def colorNames : List String :=
  ["black", "red", "green", "yellow", "blue", "magenta", "cyan", "white", "brightblack", "brightred", "brightgreen",
   "brightyellow", "brightblue", "brightmagenta", "brightcyan", "brightwhite"]

def esc : String := String.singleton (Char.ofNat 27)

/-- the `ansiColor` table -/
def ansiOf (i : Nat) : String :=
  if i < 8 then esc ++ "[3" ++ toString i ++ "m" else esc ++ "[3" ++ toString (i - 8) ++ ";1m"

def ansiReset : String := esc ++ "[0m"

/-- `targetColor()`: a known colour name (any case) from `MAGEFILE_TARGET_COLOR`, else cyan -/
def targetColor (env : String → Option String) : String :=
  match env "MAGEFILE_TARGET_COLOR" with
  | some s => match colorNames.findIdx? (· == lower s) with
    | some i => ansiOf i
    | none => ansiOf 6
  | none => ansiOf 6

/-- `enableColor() && terminalSupportsColor()` -/
def colorOn (env : String → Option String) : Bool :=
  (Flags.parseBool ((env "MAGEFILE_ENABLE_COLOR").getD "")).getD false &&
    !(["vt100", "cygwin", "xterm-mono"].contains ((env "TERM").getD ""))

/-- `printName` -/
def printName (env : String → Option String) (s : String) : String :=
  if colorOn env then targetColor env ++ s ++ ansiReset else s

def pad (n : Nat) : String := String.ofList (List.replicate n ' ')

/-- text/tabwriter on one-column input -/
def tabulate (rows : List (String × String)) : String :=
  let width := (rows.map fun r => r.1.length + 2).foldl max 0 + 4
  String.join (rows.map fun r => "  " ++ r.1 ++ pad (width - (r.1.length + 2)) ++ r.2 ++ "\n")

/-- standard output of `-l` in a given environment: the keys are sorted first and coloured afterwards -/
def listTextEnv (env : String → Option String) (info : PkgInfo) : String :=
  (if info.description ≠ "" then info.description ++ "\n\n" else "") ++
  "Targets:\n" ++ tabulate ((sortBy (·.1) (listRows info)).map fun r => (printName env r.1, r.2)) ++
  (match info.defaultFunc with
   | some d => if d.name ≠ "" then "\n* default target\n" else ""
   | none => "")

/-- standard output of `-l` (colour off) -/
def listText (info : PkgInfo) : String :=
  (if info.description ≠ "" then info.description ++ "\n\n" else "") ++
  "Targets:\n" ++ tabulate (sortBy (·.1) (listRows info)) ++
  (match info.defaultFunc with
   | some d => if d.name ≠ "" then "\n* default target\n" else ""
   | none => "")

/-- the aliases shown by `-h <target>`: those that run this very target (same command-line name) -/
def helpAliases (info : PkgInfo) (f : Function) : List String :=
  (info.aliases.filter fun a => a.2.targetName == f.targetName).map (·.1)

/-- standard output of `-h <target>` for a known target -/
def helpText (bin : String) (info : PkgInfo) (f : Function) : String :=
  (if f.comment ≠ "" then f.comment ++ "\n\n" else "") ++
  "Usage:\n\n\t" ++ bin ++ " " ++ lower f.targetName ++ String.join (f.args.map fun a => " <" ++ a.name ++ ">") ++ "\n\n" ++
  (let al := helpAliases info f
   if al.isEmpty then "" else "Aliases: " ++ ", ".intercalate al ++ "\n\n")

/-- `-h <word>`: the `switch strings.ToLower(word)` over own targets, then imported ones -/
def helpLookupFn (info : PkgInfo) (word : String) : Option Function :=
  (allTargets info).find? fun f => lower f.targetName == lower word

/-- `-h` with words: text on stdout and exit status (2 with nothing on stdout for no word or an unknown one) -/
def help (bin : String) (info : PkgInfo) (words : List String) : String × Int :=
  match words with
  | [] => ("", 2)
  | w :: _ =>
    match helpLookupFn info w with
    | some f => (helpText bin info f, 0)
    | none => ("", 2)

/-- `fs.Usage` of the generated main (`-h` without a target, `-help`): the binary's base name and a fixed text -/
def usageText (bin : String) : String :=
  bin ++ " [options] [target]\n\nCommands:\n  -l    list targets in this binary\n  -h    show this help\n\nOptions:\n" ++
  "  -h    show description of a target\n  -t <string>\n        timeout in duration parsable format (e.g. 5m30s)\n" ++
  "  -v    show verbose output when running targets\n "

/-- the generated `list()` returns the error of writing the table (the tabwriter's `Flush`); `main` hands it to the same
error path as a failing target: a listing that could not be written is not a successful listing -/
def listingStatus (stdoutWritable : Bool) : Int := if stdoutWritable then 0 else 1

end MageModel.Gen
