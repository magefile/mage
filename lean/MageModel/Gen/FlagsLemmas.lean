import MageModel.Gen.Flags
/-!
Command lines and environments are assembled by `++` from certain and optional (`if c then [x] else []`) pieces: each lemma
says what `parse`, `lastVal` or `getenv` does with one more such piece, for any table.
-/
namespace MageModel.Gen.Flags

theorem parseBool_formatBool (b : Bool) : parseBool (formatBool b) = some b := by
  cases b <;> decide

section
variable (specs : List Spec) (pd : String → Option Int)

theorem parse_terminator (words : List String) (acc : Assign) :
    parse specs pd ("--" :: words) acc = .ok (acc, words) := by
  simp [parse, classify]

variable {w n v : String} {rest : List String} {acc : Assign}

theorem parse_bool_bare (hw : classify w = .flag n none) (hs : specs.find? (fun sp => sp.name == n) = some ⟨n, .bool⟩) :
    parse specs pd (w :: rest) acc = parse specs pd rest (acc ++ [(n, .b true)]) := by
  simp only [parse, hw, hs]

theorem parse_bool_eq {b : Bool} (hw : classify w = .flag n (some v))
    (hs : specs.find? (fun sp => sp.name == n) = some ⟨n, .bool⟩) (hv : parseBool v = some b) :
    parse specs pd (w :: rest) acc = parse specs pd rest (acc ++ [(n, .b b)]) := by
  simp only [parse, hw, hs, hv]

theorem parse_dur_next {d : Int} (hw : classify w = .flag n none)
    (hs : specs.find? (fun sp => sp.name == n) = some ⟨n, .dur⟩) (hv : pd v = some d) :
    parse specs pd (w :: v :: rest) acc = parse specs pd rest (acc ++ [(n, .d d)]) := by
  simp only [parse, hw, hs, setVal, hv, Option.map_some]

theorem parse_opt (seg : List String) {c : Prop} [Decidable c] {asg : Assign}
    (h : c → ∀ acc, parse specs pd (seg ++ rest) acc = parse specs pd rest (acc ++ asg)) :
    parse specs pd ((if c then seg else []) ++ rest) acc = parse specs pd rest (acc ++ if c then asg else []) := by
  split
  · exact h ‹c› acc
  · rw [List.nil_append, List.append_nil]

end

/-- `lastVal` and `getenv` both read an association list from its end -/
theorem findLast_append_one {β} (L : List (String × β)) (k k' : String) (v : β) :
    (L ++ [(k', v)]).reverse.find? (fun p => p.1 == k) =
      if k = k' then some (k', v) else L.reverse.find? (fun p => p.1 == k) := by
  by_cases h : k = k' <;> simp [h, Ne.symm]

theorem lastVal_append_one (a : Assign) (n n' : String) (x : Val) :
    lastVal (a ++ [(n', x)]) n = if n = n' then some x else lastVal a n := by
  by_cases h : n = n' <;> simp only [lastVal, findLast_append_one, h, ↓reduceIte, Option.map_some]

theorem lastVal_append_opt (a : Assign) {c : Prop} [Decidable c] (n n' : String) (x : Val) :
    lastVal (a ++ if c then [(n', x)] else []) n = if c ∧ n = n' then some x else lastVal a n := by
  by_cases h : c <;> simp [h, lastVal_append_one]

theorem getenv_append_one (E : Env) (k k' v : String) :
    getenv (E ++ [(k', v)]) k = if k = k' then v else getenv E k := by
  by_cases h : k = k' <;> simp only [getenv, findLast_append_one, h, ↓reduceIte]

theorem getenv_append_opt (E : Env) {c : Prop} [Decidable c] (k k' v : String) :
    getenv (E ++ if c then [(k', v)] else []) k = if c ∧ k = k' then v else getenv E k := by
  by_cases h : c <;> simp [h, getenv_append_one]

theorem getenv_append_same (E : Env) (k v : String) : getenv (E ++ [(k, v)]) k = v := by
  rw [getenv_append_one, if_pos rfl]

theorem getenv_append_other (E : Env) (k k' v : String) (h : k' ≠ k) : getenv (E ++ [(k', v)]) k = getenv E k := by
  rw [getenv_append_one, if_neg h.symm]

end MageModel.Gen.Flags
