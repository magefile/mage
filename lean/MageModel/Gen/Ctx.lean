/-
The generated main's `getContext` / `runTarget` (mage/template.go:262-325) over a logical clock.
One context for the whole invocation, created when the first target starts (time `t0`), with deadline `t0 + d`
when `-t d` is non-zero.  Each target is run under a `select` over {SIGINT, ctx.Done, target finished}; after a
first SIGINT the context is cancelled and a second `select` waits for {target finished, 5 s, second SIGINT}.
Times are natural numbers (nanoseconds, say); simultaneous events are excluded by hypotheses where it matters
(Go's `select` then chooses arbitrarily).
-/
namespace MageModel.Gen.Ctx

/-- what a target does: how long it takes when left alone, whether it returns as soon as its context is cancelled,
and the status its own result carries (0 = success) -/
structure Target where
  dur : Nat
  honours : Bool
  status : Int := 0
  takesCtx : Bool := true
  deriving DecidableEq, Repr

/-- the environment of one invocation: the timeout (0 = none) and the arrival times of at most two SIGINTs -/
structure Env where
  d : Nat
  sig1 : Option Nat := none
  sig2 : Option Nat := none
  grace : Nat := 5000000000      -- the 5 s of `time.After(5 * time.Second)`
  deriving DecidableEq, Repr

inductive Ending where
  | finished (status : Int)      -- all targets ran; the last handleError saw `status`
  | targetFailed (i : Nat) (status : Int)
  | deadline (i : Nat)           -- "context deadline exceeded" while target i was running: status 1
  | cancelled (i : Nat)          -- target i returned because of the cancellation it honoured: status 1
  | cleanupTimeout (i : Nat)     -- "cleanup timeout exceeded": status 1
  | forced (i : Nat)             -- "exit forced" (second SIGINT): status 1
  deriving DecidableEq, Repr

structure Outcome where
  ending : Ending
  time : Nat                     -- logical time at which main exits
  started : List Nat             -- indices of the targets that were started
  sawCancel : List Nat           -- indices of the started context-taking targets whose context was cancelled before they returned
  deriving DecidableEq, Repr

def Ending.status : Ending → Int
  | .finished s => s
  | .targetFailed _ s => s
  | _ => 1

/-- the deadline of the invocation's single context, given the start time of the first target -/
def deadlineOf (e : Env) (t0 : Nat) : Option Nat := if e.d = 0 then none else some (t0 + e.d)

/-- a SIGINT that arrives while a target that started at `s` is being waited for (strictly after its start) -/
def sigDuring (sig : Option Nat) (s : Nat) : Option Nat := sig.bind fun t => if s < t then some t else none

/-- the deadline is the first thing to happen while a target with natural end `natural` runs -/
def dlHit (dl sig : Option Nat) (natural : Nat) : Bool :=
  match dl with
  | some D => decide (D < natural) && (match sig with | some g => decide (D < g) | none => true)
  | none => false

/-- the first SIGINT is the first thing to happen (a SIGINT at the very instant of the deadline wins: both are ready) -/
def sigHit (dl sig : Option Nat) (natural : Nat) : Bool :=
  match sig with
  | some g => decide (g < natural) && (match dl with | some D => decide (g ≤ D) | none => true)
  | none => false

/-- run the targets from index `i`, the current one starting at time `s`; `dl` is the shared deadline; `gone` says
that the context was already cancelled by a SIGINT during an earlier target (which ignored it and ended in time):
`runTarget` then finds `ctx.Done()` ready and returns the context's error at once -/
def runFrom (e : Env) (dl : Option Nat) : Bool → Nat → Nat → List Target → List Nat → List Nat → Outcome
  | _, _, s, [], started, saw => ⟨.finished 0, s, started, saw⟩
  | true, i, s, t :: _, started, saw => ⟨.cancelled i, s, started ++ [i], if t.takesCtx then saw ++ [i] else saw⟩
  | false, i, s, t :: rest, started, saw =>
    let started := started ++ [i]
    let natural := s + t.dur
    let sig := sigDuring e.sig1 s
    if dlHit dl sig natural then
      ⟨.deadline i, dl.getD 0, started, if t.takesCtx then saw ++ [i] else saw⟩
    else if sigHit dl sig natural then
      let g := sig.getD 0
      let saw := if t.takesCtx then saw ++ [i] else saw
      if t.honours then ⟨.cancelled i, g, started, saw⟩
      else
        -- the target ignores the cancellation: wait for it, for the grace period, or for a second SIGINT
        let second := (sigDuring e.sig2 g)
        let limit := g + e.grace
        match second with
        | some g2 =>
          if g2 < natural && g2 < limit then ⟨.forced i, g2, started, saw⟩
          else if limit < natural then ⟨.cleanupTimeout i, limit, started, saw⟩
          else if t.status ≠ 0 then ⟨.targetFailed i t.status, natural, started, saw⟩
          else runFrom e dl true (i+1) natural rest started saw
        | none =>
          if limit < natural then ⟨.cleanupTimeout i, limit, started, saw⟩
          else if t.status ≠ 0 then ⟨.targetFailed i t.status, natural, started, saw⟩
          else runFrom e dl true (i+1) natural rest started saw
    else if t.status ≠ 0 then ⟨.targetFailed i t.status, natural, started, saw⟩
    else runFrom e dl false (i+1) natural rest started saw

/-- the whole invocation: the context is created when the first target starts, at `t0` -/
def run (e : Env) (t0 : Nat) (ts : List Target) : Outcome := runFrom e (deadlineOf e t0) false 0 t0 ts [] []

/-! ### contexts of dependencies (mg/deps.go: CtxDeps forwards, Deps uses Background; mg/fn.go passes it on) -/

inductive Style where | ctxDeps | deps
  deriving DecidableEq, Repr

/-- the context a dependency's body runs with: that of the requester who won its once-cell -/
def depContext (requests : List Style) (winner : Nat) : Option Style := requests[winner]?

/-- does the dependency's context carry the invocation's deadline / cancellation? -/
def depSeesCancel (requests : List Style) (winner : Nat) : Bool := depContext requests winner == some .ctxDeps

/-- **the only sources of cancellation** of the context a dependency runs with: the invocation's deadline or SIGINT, and
only when it was reached through CtxDeps; the failure of a sibling named in the same call is not one (runDeps passes the
caller's context on unchanged) -/
def depCancelled (style : Style) (deadlineHit sigHit _siblingFailed : Bool) : Bool :=
  style == .ctxDeps && (deadlineHit || sigHit)

end MageModel.Gen.Ctx
