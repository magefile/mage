import MageModel.Generated.Shapes
import MageModel.Generated.Facts
import MageModel.Generated.Template
import MageModel.Bridge.Expected
/-! Bridge for C10 (file selection and the build environment): the functions its models transcribe still have the validated shapes.
Generated by tools/gen_bridges.py (a maintenance tool; the file is committed and re-checked by every run). -/
namespace MageModel.Bridge.P10
open MageModel
theorem shape_mage_Main : Generated.Shapes.mage_Main = Bridge.Expected.mage_Main := rfl
theorem shape_mage_ParseAndRun : Generated.Shapes.mage_ParseAndRun = Bridge.Expected.mage_ParseAndRun := rfl
theorem shape_mage_Parse : Generated.Shapes.mage_Parse = Bridge.Expected.mage_Parse := rfl
theorem shape_mage_Invoke : Generated.Shapes.mage_Invoke = Bridge.Expected.mage_Invoke := rfl
theorem shape_mage_RunCompiled : Generated.Shapes.mage_RunCompiled = Bridge.Expected.mage_RunCompiled := rfl
theorem shape_mage_Magefiles : Generated.Shapes.mage_Magefiles = Bridge.Expected.mage_Magefiles := rfl
theorem shape_mage_listGoFiles : Generated.Shapes.mage_listGoFiles = Bridge.Expected.mage_listGoFiles := rfl
theorem shape_mage_Invocation_UsesMagefiles : Generated.Shapes.mage_Invocation_UsesMagefiles = Bridge.Expected.mage_Invocation_UsesMagefiles := rfl
theorem shape_mage_Compile : Generated.Shapes.mage_Compile = Bridge.Expected.mage_Compile := rfl
theorem shape_internal_RunDebug : Generated.Shapes.internal_RunDebug = Bridge.Expected.internal_RunDebug := rfl
theorem shape_internal_EnvWithGOOS : Generated.Shapes.internal_EnvWithGOOS = Bridge.Expected.internal_EnvWithGOOS := rfl
theorem shape_internal_EnvWithCurrentGOOS : Generated.Shapes.internal_EnvWithCurrentGOOS = Bridge.Expected.internal_EnvWithCurrentGOOS := rfl
theorem shape_internal_SplitEnv : Generated.Shapes.internal_SplitEnv = Bridge.Expected.internal_SplitEnv := rfl
theorem shape_internal_joinEnv : Generated.Shapes.internal_joinEnv = Bridge.Expected.internal_joinEnv := rfl
theorem template_header : Generated.Template.header = "//go:build ignore\n// +build ignore\n\n" := by decide +kernel
theorem mainfile_name : Generated.Facts.mage_mainfile = "mage_output_file.go" := by decide +kernel
theorem magefiles_dir_name : Generated.Facts.mage_MagefilesDirName = "magefiles" := by decide +kernel
end MageModel.Bridge.P10
