import MageModel.Generated.Facts
import MageModel.Invoke.Steps
/-!
Bridge for the invocation model's configuration (C05 C08 C09 C20): the three facts about `Invoke` / `listGoFiles` that
`Invoke/Steps.lean` is parametrised by, regenerated from the source, are the ones the theorems assume; and the three file
names the harness and the models of C09/C10 rely on.
-/
namespace MageModel.Bridge.Invoke
open MageModel

theorem mainfile_name : Generated.Facts.mage_mainfile = "mage_output_file.go" := by decide +kernel
theorem initfile_name : Generated.Facts.mage_initFile = "magefile.go" := by decide +kernel
theorem magefiles_dir_name : Generated.Facts.mage_MagefilesDirName = "magefiles" := by decide +kernel

/-- the configuration of the invocation model regenerated from mage/main.go -/
def generatedCfg : Option MageModel.Invoke.Cfg :=
  match Generated.Facts.invoke_deferBeforeGenerate, Generated.Facts.invoke_explicitRemove, Generated.Facts.listGoFiles_skipsMain with
  | some a, some b, some c => some ⟨a, b, c⟩
  | _, _, _ => none

/-- … is the constant the theorems of C05 C08 C09 C20 are about -/
theorem cfg_is_fixed : generatedCfg = some MageModel.Invoke.Cfg.fixed := by decide
end MageModel.Bridge.Invoke
