import MageModel.Generated.Facts
/-! Bridge for C08: the rebuild key the decoding argument is about starts with `v` (not a hex digit). -/
namespace MageModel.Bridge.C08
open MageModel
theorem rebuild_key : Generated.Facts.mage_magicRebuildKey.toList = 'v' :: ['0', '.', '3'] := by decide +kernel
end MageModel.Bridge.C08
