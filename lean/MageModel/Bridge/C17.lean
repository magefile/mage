import MageModel.Generated.Shapes
import MageModel.Bridge.Expected
/-! Bridge for C17: the functions of package `target` have the shape `MageModel/Target/Newer.lean` transcribes. -/
namespace MageModel.Bridge.C17
open MageModel
theorem shape_Path : Generated.Shapes.target_Path = Bridge.Expected.target_Path := rfl
theorem shape_Glob : Generated.Shapes.target_Glob = Bridge.Expected.target_Glob := rfl
theorem shape_Dir : Generated.Shapes.target_Dir = Bridge.Expected.target_Dir := rfl
theorem shape_PathNewer : Generated.Shapes.target_PathNewer = Bridge.Expected.target_PathNewer := rfl
theorem shape_GlobNewer : Generated.Shapes.target_GlobNewer = Bridge.Expected.target_GlobNewer := rfl
theorem shape_DirNewer : Generated.Shapes.target_DirNewer = Bridge.Expected.target_DirNewer := rfl
theorem shape_NewestModTime : Generated.Shapes.target_NewestModTime = Bridge.Expected.target_NewestModTime := rfl
theorem shape_OldestModTime : Generated.Shapes.target_OldestModTime = Bridge.Expected.target_OldestModTime := rfl
end MageModel.Bridge.C17
