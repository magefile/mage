import MageModel.Generated.Shapes
import MageModel.Generated.Facts
import MageModel.Generated.Lits
import MageModel.Bridge.Expected
import MageModel.Deps.Sem
/-!
Bridge for the dependency runtime (C01 C02 C03 C13, and C12 for the shapes): the configuration regenerated from mg/deps.go is `Cfg.fixed`
(the constant all theorems in `Props/C01 C02 C03 C13` are about), the literal translation of `changeExit` is the
model's, and the functions have the shapes the semantics transcribes.
-/
namespace MageModel.Bridge.Deps
open MageModel

def generatedCfg : Option MageModel.Deps.Cfg :=
  match Generated.Facts.deps_storePanic, Generated.Facts.deps_atomicOnce,
        Generated.Facts.deps_waitAll, Generated.Facts.deps_serialOneByOne with
  | some a, some b, some c, some d => some ⟨a, b, c, d⟩
  | _, _, _, _ => none

theorem cfg_is_fixed : generatedCfg = some MageModel.Deps.Cfg.fixed := by decide

/-- `mg/deps.go:changeExit`, translated literally, is the model's `changeExit` -/
theorem changeExit_literal (a b : Int) : Generated.Lits.changeExit a b = MageModel.Deps.changeExit a b := by
  unfold Generated.Lits.changeExit MageModel.Deps.changeExit
  rfl

theorem shape_LoadOrStore : Generated.Shapes.mg_onceMap_LoadOrStore = Bridge.Expected.mg_onceMap_LoadOrStore := rfl
theorem shape_onceFun_run : Generated.Shapes.mg_onceFun_run = Bridge.Expected.mg_onceFun_run := rfl
theorem shape_runDeps : Generated.Shapes.mg_runDeps = Bridge.Expected.mg_runDeps := rfl
theorem shape_CtxDeps : Generated.Shapes.mg_CtxDeps = Bridge.Expected.mg_CtxDeps := rfl
theorem shape_Deps : Generated.Shapes.mg_Deps = Bridge.Expected.mg_Deps := rfl
theorem shape_SerialDeps : Generated.Shapes.mg_SerialDeps = Bridge.Expected.mg_SerialDeps := rfl
theorem shape_SerialCtxDeps : Generated.Shapes.mg_SerialCtxDeps = Bridge.Expected.mg_SerialCtxDeps := rfl
theorem shape_checkFns : Generated.Shapes.mg_checkFns = Bridge.Expected.mg_checkFns := rfl
theorem shape_changeExit : Generated.Shapes.mg_changeExit = Bridge.Expected.mg_changeExit := rfl
theorem shape_ExitStatus : Generated.Shapes.mg_ExitStatus = Bridge.Expected.mg_ExitStatus := rfl
theorem shape_Fatal : Generated.Shapes.mg_Fatal = Bridge.Expected.mg_Fatal := rfl
theorem shape_funcName : Generated.Shapes.mg_funcName = Bridge.Expected.mg_funcName := rfl
theorem shape_displayName : Generated.Shapes.mg_displayName = Bridge.Expected.mg_displayName := rfl
theorem shape_F : Generated.Shapes.mg_F = Bridge.Expected.mg_F := rfl
theorem shape_fn_Name : Generated.Shapes.mg_fn_Name = Bridge.Expected.mg_fn_Name := rfl
theorem shape_fn_ID : Generated.Shapes.mg_fn_ID = Bridge.Expected.mg_fn_ID := rfl
theorem shape_fn_Run : Generated.Shapes.mg_fn_Run = Bridge.Expected.mg_fn_Run := rfl
theorem shape_Fatalf : Generated.Shapes.mg_Fatalf = Bridge.Expected.mg_Fatalf := rfl
theorem shape_fatalErr_ExitStatus : Generated.Shapes.mg_fatalErr_ExitStatus = Bridge.Expected.mg_fatalErr_ExitStatus := rfl
theorem shape_fatalErr_Error : Generated.Shapes.mg_fatalErr_Error = Bridge.Expected.mg_fatalErr_Error := rfl
theorem shape_Verbose : Generated.Shapes.mg_Verbose = Bridge.Expected.mg_Verbose := rfl
end MageModel.Bridge.Deps
