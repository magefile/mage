import MageModel.Generated.Shapes
import MageModel.Generated.Facts
import MageModel.Generated.Template
import MageModel.Bridge.Expected
import MageModel.Generated.TemplateAst
/-!
Bridge for the front end (C04 C06 C07 C18 C19): parse/parse.go and the generated-main template have the shapes
`Parse/*.lean` and `Gen/Dispatch.lean` transcribe; the constants the theorems depend on have the proved values.
-/
namespace MageModel.Bridge.FE
open MageModel

/-- C19: the comment-group length test compares with 0 (`tag_any_length` is about this constant) -/
theorem commentGroupLen_zero : Generated.Facts.commentGroupLenConst = some 0 := by decide
theorem importTag : Generated.Facts.parse_importTag = "mage:import" := by decide +kernel
/-- C06: exactly the four supported parameter types, spelled as `argTypeOf` expects -/
theorem parse_argTypes : Generated.Facts.parse_argTypes =
    [("&{time Duration}", "time.Duration"), ("bool", "bool"), ("int", "int"), ("string", "string")] := by decide +kernel
/-- C06 (O3): every fixed import of the generated main is aliased with a leading underscore, so no package-level
identifier of a magefile can collide with it -/
theorem template_imports_aliased : Generated.Template.imports.all (fun i => i.1.toList.head? == some '_') = true := by decide +kernel
/-- C09/C10: the generated file carries the `ignore` constraint in both syntaxes -/
theorem template_header : Generated.Template.header = "//go:build ignore\n// +build ignore\n\n" := by decide +kernel
/-- the template text itself -/
theorem template_text : Generated.Template.tplString = Bridge.Expected.tplString := rfl

theorem shape_sanitizeSynopsis : Generated.Shapes.parse_sanitizeSynopsis = Bridge.Expected.parse_sanitizeSynopsis := rfl
theorem shape_toOneLine : Generated.Shapes.parse_toOneLine = Bridge.Expected.parse_toOneLine := rfl
theorem shape_getPackage : Generated.Shapes.parse_getPackage = Bridge.Expected.parse_getPackage := rfl
theorem shape_hasVoidReturn : Generated.Shapes.parse_hasVoidReturn = Bridge.Expected.parse_hasVoidReturn := rfl
theorem shape_TargetName : Generated.Shapes.parse_Function_TargetName = Bridge.Expected.parse_Function_TargetName := rfl
theorem shape_ID : Generated.Shapes.parse_Function_ID = Bridge.Expected.parse_Function_ID := rfl
theorem shape_ExecCode : Generated.Shapes.parse_Function_ExecCode = Bridge.Expected.parse_Function_ExecCode := rfl
theorem shape_PrimaryPackage : Generated.Shapes.parse_PrimaryPackage = Bridge.Expected.parse_PrimaryPackage := rfl
theorem shape_checkDupes : Generated.Shapes.parse_checkDupes = Bridge.Expected.parse_checkDupes := rfl
theorem shape_Package : Generated.Shapes.parse_Package = Bridge.Expected.parse_Package := rfl
theorem shape_getNamedImports : Generated.Shapes.parse_getNamedImports = Bridge.Expected.parse_getNamedImports := rfl
theorem shape_getImport : Generated.Shapes.parse_getImport = Bridge.Expected.parse_getImport := rfl
theorem shape_getImportFrom : Generated.Shapes.parse_getImportFrom = Bridge.Expected.parse_getImportFrom := rfl
theorem shape_setFuncs : Generated.Shapes.parse_setFuncs = Bridge.Expected.parse_setFuncs := rfl
theorem shape_setNamespaces : Generated.Shapes.parse_setNamespaces = Bridge.Expected.parse_setNamespaces := rfl
theorem shape_setImports : Generated.Shapes.parse_setImports = Bridge.Expected.parse_setImports := rfl
theorem shape_getImportPath : Generated.Shapes.parse_getImportPath = Bridge.Expected.parse_getImportPath := rfl
theorem shape_getImportPathFromCommentGroup : Generated.Shapes.parse_getImportPathFromCommentGroup = Bridge.Expected.parse_getImportPathFromCommentGroup := rfl
theorem shape_isNamespace : Generated.Shapes.parse_isNamespace = Bridge.Expected.parse_isNamespace := rfl
theorem shape_checkDupeTargets : Generated.Shapes.parse_checkDupeTargets = Bridge.Expected.parse_checkDupeTargets := rfl
theorem shape_setDefault : Generated.Shapes.parse_setDefault = Bridge.Expected.parse_setDefault := rfl
theorem shape_setAliases : Generated.Shapes.parse_setAliases = Bridge.Expected.parse_setAliases := rfl
theorem shape_getFunction : Generated.Shapes.parse_getFunction = Bridge.Expected.parse_getFunction := rfl
theorem shape_lit2string : Generated.Shapes.parse_lit2string = Bridge.Expected.parse_lit2string := rfl
theorem shape_hasContextParam : Generated.Shapes.parse_hasContextParam = Bridge.Expected.parse_hasContextParam := rfl
theorem shape_hasErrorReturn : Generated.Shapes.parse_hasErrorReturn = Bridge.Expected.parse_hasErrorReturn := rfl
theorem shape_funcType : Generated.Shapes.parse_funcType = Bridge.Expected.parse_funcType := rfl
theorem shape_Functions_Less : Generated.Shapes.parse_Functions_Less = Bridge.Expected.parse_Functions_Less := rfl
theorem shape_Imports_Less : Generated.Shapes.parse_Imports_Less = Bridge.Expected.parse_Imports_Less := rfl
theorem shape_lowerFirstWord : Generated.Shapes.mage_lowerFirstWord = Bridge.Expected.mage_lowerFirstWord := rfl
theorem shape_GenerateMainfile : Generated.Shapes.mage_GenerateMainfile = Bridge.Expected.mage_GenerateMainfile := rfl

/-- the template uses only constructs the Lean interpreter (`Gen/Tpl.lean`) gives meaning to, so the regenerated
`TemplateAst.nodes` *is* the template -/
theorem template_translatable : Generated.TemplateAst.translatable = true := by decide +kernel
/-- `ExecCode` is built from the 24 string literals `Gen/Emit.execCode` indexes; the ones it branches on are the four
argument types, in this order -/
theorem execCode_literals : Generated.TemplateAst.execCodeLits.length = 24 ∧
    [Generated.TemplateAst.execCodeLits.getD 7 "", Generated.TemplateAst.execCodeLits.getD 9 "",
     Generated.TemplateAst.execCodeLits.getD 11 "", Generated.TemplateAst.execCodeLits.getD 13 ""] =
      ["string", "int", "bool", "time.Duration"] ∧
    [Generated.TemplateAst.execCodeLits.getD 2 "", Generated.TemplateAst.execCodeLits.getD 3 "",
     Generated.TemplateAst.execCodeLits.getD 4 "", Generated.TemplateAst.execCodeLits.getD 6 "",
     Generated.TemplateAst.execCodeLits.getD 16 "", Generated.TemplateAst.execCodeLits.getD 17 "",
     Generated.TemplateAst.execCodeLits.getD 18 "", Generated.TemplateAst.execCodeLits.getD 19 "",
     Generated.TemplateAst.execCodeLits.getD 20 "", Generated.TemplateAst.execCodeLits.getD 21 ""] =
      [".", "(&", "{}).", ".", "return ", "(", "ctx", "arg%d", ", ", ")"] := by decide +kernel
end MageModel.Bridge.FE
