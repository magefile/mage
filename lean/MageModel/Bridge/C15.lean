import MageModel.Generated.Shapes
import MageModel.Bridge.Expected
/-! Bridge for C15: sh/cmd.go and mg/errors.go have the shapes `MageModel/Sh/Exec.lean` transcribes. -/
namespace MageModel.Bridge.C15
open MageModel
theorem shape_Run : Generated.Shapes.sh_Run = Bridge.Expected.sh_Run := rfl
theorem shape_RunV : Generated.Shapes.sh_RunV = Bridge.Expected.sh_RunV := rfl
theorem shape_RunWith : Generated.Shapes.sh_RunWith = Bridge.Expected.sh_RunWith := rfl
theorem shape_RunWithV : Generated.Shapes.sh_RunWithV = Bridge.Expected.sh_RunWithV := rfl
theorem shape_Output : Generated.Shapes.sh_Output = Bridge.Expected.sh_Output := rfl
theorem shape_OutputWith : Generated.Shapes.sh_OutputWith = Bridge.Expected.sh_OutputWith := rfl
theorem shape_Exec : Generated.Shapes.sh_Exec = Bridge.Expected.sh_Exec := rfl
theorem shape_run : Generated.Shapes.sh_run = Bridge.Expected.sh_run := rfl
theorem shape_CmdRan : Generated.Shapes.sh_CmdRan = Bridge.Expected.sh_CmdRan := rfl
theorem shape_ExitStatus : Generated.Shapes.sh_ExitStatus = Bridge.Expected.sh_ExitStatus := rfl
theorem shape_mg_ExitStatus : Generated.Shapes.mg_ExitStatus = Bridge.Expected.mg_ExitStatus := rfl
theorem shape_mg_Fatalf : Generated.Shapes.mg_Fatalf = Bridge.Expected.mg_Fatalf := rfl
theorem shape_mg_fatalErr_ExitStatus : Generated.Shapes.mg_fatalErr_ExitStatus = Bridge.Expected.mg_fatalErr_ExitStatus := rfl
theorem shape_mg_Verbose : Generated.Shapes.mg_Verbose = Bridge.Expected.mg_Verbose := rfl
end MageModel.Bridge.C15
