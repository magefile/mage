import MageModel.Deps.Sem
/-! The exit-status combination rule: `changeExit`, its fold over a list of statuses (`foldExit`) with closed forms, and `exitOf`
as that fold over the failures' statuses. -/
namespace MageModel.Deps

theorem changeExit_zero_left (n : Int) : changeExit 0 n = n := by simp [changeExit, eq_comm]
theorem changeExit_zero_right (o : Int) : changeExit o 0 = o := by simp [changeExit]
theorem changeExit_self (c : Int) : changeExit c c = c := by simp [changeExit]
theorem changeExit_nonzero {a b : Int} (ha : a ≠ 0) (hb : b ≠ 0) : changeExit a b = if a = b then a else 1 := by
  simp [changeExit, ha, hb]

theorem changeExit_comm (a b : Int) : changeExit a b = changeExit b a := by
  by_cases ha : a = 0
  · rw [ha, changeExit_zero_left, changeExit_zero_right]
  by_cases hb : b = 0
  · rw [hb, changeExit_zero_left, changeExit_zero_right]
  rw [changeExit_nonzero ha hb, changeExit_nonzero hb ha]
  by_cases hab : a = b
  · rw [if_pos hab, if_pos hab.symm, hab]
  · rw [if_neg hab, if_neg (Ne.symm hab)]

def foldExit (e : Int) (cs : List Int) : Int := cs.foldl changeExit e

theorem exitOf_eq (fs : List (Int × String)) : exitOf fs = foldExit 0 (fs.map Prod.fst) := by
  rw [exitOf, foldExit, List.foldl_map]

theorem foldExit_cons (e c : Int) (rest : List Int) : foldExit e (c :: rest) = foldExit (changeExit e c) rest := rfl

theorem foldExit_common {c : Int} {cs : List Int} (h : ∀ x ∈ cs, x = c) {e : Int} (he : e = 0 ∨ e = c) :
    foldExit e cs = if cs = [] then e else c := by
  induction cs generalizing e with
  | nil => rfl
  | cons x rest ih =>
    have hstep : changeExit e x = c := by
      rw [h x List.mem_cons_self]
      rcases he with he | he
      · rw [he, changeExit_zero_left]
      · rw [he, changeExit_self]
    rw [foldExit_cons, hstep, ih (fun y hy => h y (List.mem_cons_of_mem _ hy)) (Or.inr rfl), if_neg (List.cons_ne_nil _ _)]
    split <;> rfl

theorem foldExit_nonzero {cs : List Int} (h : ∀ x ∈ cs, x ≠ 0) {e : Int} (he : e ≠ 0) :
    foldExit e cs = if cs.all (· == e) then e else 1 := by
  induction cs generalizing e with
  | nil => rfl
  | cons x rest ih =>
    have hrest : ∀ y ∈ rest, y ≠ 0 := fun y hy => h y (List.mem_cons_of_mem _ hy)
    rw [foldExit_cons, changeExit_nonzero he (h x List.mem_cons_self), List.all_cons]
    by_cases hxe : e = x
    · rw [if_pos hxe, ih hrest he, ← hxe, beq_self_eq_true, Bool.true_and]
    · rw [if_neg hxe, ih hrest Int.one_ne_zero, beq_false_of_ne (Ne.symm hxe), Bool.false_and]
      split <;> rfl

theorem foldExit_mixed {cs : List Int} (h : ∀ x ∈ cs, x ≠ 0) {a b : Int} (ha : a ∈ cs) (hb : b ∈ cs) (hab : a ≠ b) :
    foldExit 0 cs = 1 := by
  cases cs with
  | nil => cases ha
  | cons x rest =>
    rw [foldExit_cons, changeExit_zero_left, foldExit_nonzero (fun y hy => h y (List.mem_cons_of_mem _ hy)) (h x List.mem_cons_self),
      if_neg]
    -- otherwise `a` and `b` both equal `x`
    intro hall
    have heq : ∀ y ∈ x :: rest, y = x := List.forall_mem_cons.mpr ⟨rfl, fun y hy => eq_of_beq (List.all_eq_true.mp hall y hy)⟩
    exact hab ((heq a ha).trans (heq b hb).symm)

/-- **Status rule** (all failure statuses non-zero): the common status, or 1 when they differ —
in particular independent of the order in which the failures were collected. -/
theorem status_rule (fs : List (Int × String)) (hne : fs ≠ []) (h : ∀ f ∈ fs, f.1 ≠ 0) :
    exitOf fs = if fs.all (fun f => f.1 == (fs.head hne).1) then (fs.head hne).1 else 1 := by
  cases fs with
  | nil => exact absurd rfl hne
  | cons a rest =>
    have hrest : ∀ x ∈ rest.map Prod.fst, x ≠ 0 := fun x hx => by
      obtain ⟨g, hg, rfl⟩ := List.mem_map.mp hx
      exact h g (List.mem_cons_of_mem _ hg)
    rw [exitOf_eq, List.map_cons, foldExit_cons, changeExit_zero_left, foldExit_nonzero hrest (h a List.mem_cons_self)]
    simp only [List.head_cons, List.all_cons, List.all_map, beq_self_eq_true, Bool.true_and]
    rfl

theorem foldExit_perm {cs cs' : List Int} (hp : cs.Perm cs') (h : ∀ x ∈ cs, x ≠ 0) : foldExit 0 cs = foldExit 0 cs' := by
  cases cs with
  | nil => rw [List.nil_perm.mp hp]
  | cons c rest =>
    have hc' : c ∈ cs' := hp.mem_iff.mp List.mem_cons_self
    by_cases hall : ∀ x ∈ c :: rest, x = c
    · rw [foldExit_common hall (.inl rfl), foldExit_common (fun x hx => hall x (hp.mem_iff.mpr hx)) (.inl rfl),
        if_neg (List.cons_ne_nil _ _), if_neg (List.ne_nil_of_mem hc')]
    · obtain ⟨x, hx⟩ := Classical.not_forall.mp hall
      obtain ⟨hx, hne⟩ := Classical.not_imp.mp hx
      rw [foldExit_mixed h hx List.mem_cons_self hne,
        foldExit_mixed (fun y hy => h y (hp.mem_iff.mpr hy)) (hp.mem_iff.mp hx) hc' hne]

theorem status_perm (fs fs' : List (Int × String)) (hp : fs.Perm fs') (h : ∀ f ∈ fs, f.1 ≠ 0) :
    exitOf fs = exitOf fs' := by
  rw [exitOf_eq, exitOf_eq]
  refine foldExit_perm (hp.map _) fun x hx => ?_
  obtain ⟨f, hf, rfl⟩ := List.mem_map.mp hx
  exact h f hf

end MageModel.Deps
