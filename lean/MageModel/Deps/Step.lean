import MageModel.Deps.Inv
/-! Every move preserves `Inv`.  A move is a change of an active owner's body that logs call events of that owner (`Inv.frame`),
possibly followed by the start of a dependency's body (`Inv.start`) or, when the owner's body ends, by the end of one
(`Inv.stop`). -/
namespace MageModel.Deps

/-- the body is running: it can take a step and has not ended -/
def Active : BState → Prop
  | .ready _ | .inCall _ _ => True
  | _ => False

theorem Active.of_ready {b : BState} {i : Nat} (hb : b = .ready i) : Active b := hb ▸ trivial
theorem Active.of_inCall {b : BState} {i : Nat} {rs : List RState} (hb : b = .inCall i rs) : Active b := hb ▸ trivial

variable {p : Prog} {s : State}

theorem KeyOK.running {k : Key} (h : KeyOK s k) (hact : Active (s.body (.key k))) : s.cell k = .running := by
  cases hc : s.cell k with
  | absent => exact (h.bodyCell hc ▸ hact).elim
  | running => rfl
  | done st se => obtain ⟨out, ho⟩ := h.doneEnded st se hc; exact (ho ▸ hact).elim

-- `hbody`: while the cell is `running` the fields say nothing about the body, so it may change
theorem KeyOK.frame {s' : State} {k : Key} (h : KeyOK s k) (es : List Event) (hlog : s'.log = es ++ s.log)
    (hes : ∀ e ∈ es, e ≠ .start k ∧ ∀ r, e ≠ .stop k r) (hcell : s'.cell k = s.cell k)
    (hbody : s.cell k ≠ .running → s'.body (.key k) = s.body (.key k)) : KeyOK s' k where
  once := by
    rw [hlog, hcell, starts_append_noStart s.log fun hm => (hes _ hm).1 rfl]
    exact h.once
  bodyCell hc := by
    rw [hcell] at hc
    rw [hbody fun hr => by rw [hr] at hc; cases hc]
    exact h.bodyCell hc
  doneEnded st se hc := by
    rw [hcell] at hc
    rw [hbody fun hr => by rw [hr] at hc; cases hc]
    exact h.doneEnded st se hc
  doneSame st se hc := by
    rw [hcell] at hc
    rw [hlog]
    exact ⟨(h.doneSame st se hc).1, List.mem_append_right _ (h.doneSame st se hc).2⟩
  stopCell r hr := by
    rw [hlog] at hr
    rw [hcell]
    rcases List.mem_append.mp hr with hm | hm
    · exact absurd rfl ((hes _ hm).2 r)
    · exact h.stopCell r hm

theorem BodyOK.setCell {o : Owner} {b : BState} {k : Key} (c : Cell) (hk : ∀ r, s.cell k ≠ .done r r)
    (h : BodyOK p s.cell o b) : BodyOK p (setCell s k c).cell o b := by
  cases b with
  | inCall i rs =>
    obtain ⟨cs, hc, h⟩ := h
    refine ⟨cs, hc, { h with finDone := fun j k' r hk' hr => ?_ }⟩
    have hd := h.finDone j k' r hk' hr
    rw [setCell_cell, if_neg fun e : k' = k => hk r (e ▸ hd), hd]
  | _ => trivial

theorem CallOK.set {cell : Key → Cell} {cs : CallSpec} {rs : List RState} {j : Nat} {k : Key} {r r' : RState}
    (h : CallOK cell cs rs) (hk : cs.keys[j]? = some k) (hr : rs[j]? = some r) (hnf : ∀ x, r ≠ .fin x)
    (hs : r' ≠ .sawAbsent) (hfin : ∀ x, r' = .fin x → cell k = .done x x) : CallOK cell cs (rs.set j r') where
  noSaw hm := by
    rcases List.mem_or_eq_of_mem_set hm with e | e
    · exact h.noSaw e
    · exact hs e.symm
  lenLe := by rw [List.length_set]; exact h.lenLe
  finDone j' k' x hk' hr' := by
    by_cases e : j = j'
    · subst e
      rw [getElem?_set_self' hr] at hr'
      cases hk.symm.trans hk'
      exact hfin x (Option.some.inj hr')
    · rw [getElem?_set_ne' e] at hr'
      exact h.finDone j' k' x hk' hr'
  serPrefix hser j' hj' := by
    rw [List.length_set] at hj'
    have := h.serPrefix hser j' hj'
    by_cases e : j = j'
    · subst e; rw [hr] at this; exact absurd (Option.some.inj this) (hnf none)
    · rwa [getElem?_set_ne' e]

theorem CallOK.site {cell : Key → Cell} {cs : CallSpec} {rs : List RState} {j : Nat} {k : Key} {r r' : RState}
    {c : Cell} (h : CallOK cell cs rs) (hk : cs.keys[j]? = some k) (hr : rs[j]? = some r) (hc : cell k = c)
    (hst : SiteStep c r r') (hsame : ∀ st se, cell k = .done st se → st = se) : CallOK cell cs (rs.set j r') := by
  cases hst with
  | block => exact h.set hk hr (by simp) (by simp) (by simp)
  | read st se => exact h.set hk hr (by simp) (by simp) fun x hx => by cases hx; rw [hc, ← hsame st se hc]
  | wake st se => exact h.set hk hr (by simp) (by simp) fun x hx => by cases hx; rw [hc, ← hsame st se hc]
  | own st se => exact h.set hk hr (by simp) (by simp) fun x hx => by cases hx; rw [hc, hsame st se hc]

theorem CallOK.snoc {cell : Key → Cell} {cs : CallSpec} {rs : List RState} (h : CallOK cell cs rs)
    (hlt : rs.length < cs.keys.length) (hl : rs.getLast? = none ∨ rs.getLast? = some (.fin none)) :
    CallOK cell cs (rs ++ [.want]) where
  noSaw := by simp [h.noSaw]
  lenLe := by rw [List.length_append]; exact hlt
  finDone j k r hk hr := by
    rw [List.getElem?_append] at hr
    split at hr
    · exact h.finDone j k r hk hr
    · rw [List.getElem?_singleton] at hr; split at hr <;> cases hr
  serPrefix hser j hj := by
    have hj : j < rs.length := by simpa using hj
    rw [List.getElem?_append_left hj]
    exact serial_all_ok (h.serPrefix hser) hl hj

theorem CallOK.fresh {cell : Key → Cell} {cs : CallSpec} {rs : List RState} (hw : ∀ r ∈ rs, r = .want)
    (hlen : rs.length ≤ cs.keys.length) (hser : cs.serial = true → rs = []) : CallOK cell cs rs where
  noSaw hm := by cases hw _ hm
  lenLe := hlen
  finDone j k r _ hr := by cases hw _ (List.mem_of_getElem? hr)
  serPrefix hs j hj := by rw [hser hs] at hj; cases hj

/-- a call event of owner `o`: what an owner logs while its body runs -/
def Event.callOf (o : Owner) : Event → Prop
  | .enter c | .req c _ _ | .ret c _ | .pan c _ _ _ => c.owner = o
  | _ => False

theorem Event.callOf.ne_start {o : Owner} {e : Event} (h : e.callOf o) (k : Key) : e ≠ .start k := by rintro rfl; exact h
theorem Event.callOf.ne_stop {o : Owner} {e : Event} (h : e.callOf o) (k : Key) (r : Res) : e ≠ .stop k r := by rintro rfl; exact h

theorem LiveLog.frame (I : Inv p s) {o : Owner} {es : List Event}
    (hact : Active (s.body o)) (hes : ∀ e ∈ es, e.callOf o) : LiveLog (es ++ s.log) := by
  refine LiveLog.append I.live fun pre e post h => ?_
  have hlive : ∀ k, o = .key k → ∀ r, Event.stop k r ∉ post ++ s.log := by
    rintro k rfl r hm
    rcases List.mem_append.mp hm with hm | hm
    · exact hes _ (mem_of_mem_earlier h hm)
    · have := (I.keys k).stopCell r hm
      rw [(I.keys k).running hact] at this; cases this
  have he := hes e (h ▸ List.mem_append_right _ List.mem_cons_self)
  cases e with
  | ret c | pan c => exact fun k hk => hlive k (he.symm.trans hk)
  | _ => trivial

theorem Inv.frame (I : Inv p s) {o : Owner} (b : BState) {es : List Event}
    (hact : Active (s.body o)) (hok : BodyOK p s.cell o b) (hes : ∀ e ∈ es, e.callOf o) (hgood : GoodLog p (es ++ s.log)) :
    Inv p (emits (setBody s o b) es) := by
  -- `hgood` is the new log itself and not the premise of `GoodLog.append`, which for `es = []` and `es = [e]` would have to
  -- be discharged by `simp` at every use
  refine ⟨fun k => ?_, fun o' => ?_, hgood, LiveLog.frame I hact hes⟩
  · exact (I.keys k).frame es rfl (fun e he => ⟨(hes e he).ne_start k, (hes e he).ne_stop k⟩) rfl
      fun hne => if_neg fun e : Owner.key k = o => hne ((I.keys k).running (e ▸ hact))
  · simp only [emits_body, setBody_body, emits_cell, setBody_cell]
    split
    · rename_i e; rw [e]; exact hok
    · exact I.bodies o'

theorem Inv.start (I : Inv p s) {k : Key} (habs : s.cell k = .absent) :
    Inv p (emit (setBody (setCell s k .running) (.key k) (.ready 0)) (.start k)) := by
  refine ⟨fun k' => ?_, fun o' => ?_, ⟨trivial, I.good⟩, ⟨trivial, I.live⟩⟩
  · by_cases e : k' = k
    · subst e
      have h0 : starts k' s.log = 0 := by have := (I.keys k').once; rwa [if_pos habs] at this
      have hns : ∀ r, Event.stop k' r ∉ s.log := fun r hr => by
        have := (I.keys k').stopCell r hr; rw [habs] at this; cases this
      exact
        { once := by simp [h0]
          bodyCell := fun hc => by simp at hc
          doneEnded := fun st se hc => by simp at hc
          doneSame := fun st se hc => by simp at hc
          stopCell := fun r hr => absurd (by simpa using hr) (hns r) }
    · refine (I.keys k').frame [.start k] rfl (fun ev he => ?_) (if_neg e) fun _ => if_neg fun h => e (Owner.key.inj h)
      cases List.mem_singleton.mp he
      exact ⟨fun h => e (Event.start.inj h).symm, fun _ h => (by cases h)⟩
  · by_cases e : o' = .key k
    · subst e; simp only [emit_body, setBody_body, if_pos]; trivial
    · simp only [emit_body, setBody_body, if_neg e, emit_cell, setBody_cell]
      exact (I.bodies o').setCell .running fun r h => by rw [habs] at h; cases h

theorem Inv.stop (I : Inv p s) {k : Key} (r : Res) (hrun : s.cell k = .running)
    (hend : ∃ out, s.body (.key k) = .ended out) : Inv p (emit (setCell s k (.done r r)) (.stop k r)) := by
  have h1 : starts k s.log = 1 := by have := (I.keys k).once; rwa [hrun, if_neg (fun h => by cases h)] at this
  refine ⟨fun k' => ?_, fun o' => ?_, ⟨starts_pos_iff.mp (h1 ▸ Nat.one_pos), I.good⟩, ⟨trivial, I.live⟩⟩
  · by_cases e : k' = k
    · subst e
      exact
        { once := by simp [h1]
          bodyCell := fun hc => by simp at hc
          doneEnded := fun _ _ _ => hend
          doneSame := fun st se hc => by
            simp at hc; obtain ⟨rfl, rfl⟩ := hc; exact ⟨rfl, List.mem_cons_self⟩
          stopCell := fun r' hr => by
            rcases List.mem_cons.mp hr with hr | hr
            · cases hr; simp
            · have := (I.keys k').stopCell r' hr; rw [hrun] at this; cases this }
    · refine (I.keys k').frame [.stop k r] rfl (fun ev he => ?_) (if_neg e) fun _ => rfl
      cases List.mem_singleton.mp he
      exact ⟨fun h => (by cases h), fun r' h => e (Event.stop.inj h).1.symm⟩
  · exact (I.bodies o').setCell (.done r r) fun r' h => by rw [hrun] at h; cases h

theorem Inv.body_ends (I : Inv p s) {o : Owner} (out : Out) {es : List Event}
    (hact : Active (s.body o)) (hes : ∀ e ∈ es, e.callOf o) (hgood : GoodLog p (es ++ s.log)) :
    Inv p (bodyEnded (emits s es) o out) := by
  have J := I.frame (.ended out) hact trivial hes hgood
  cases o with
  | root r => exact J
  | key k =>
    -- `setBody (emits s es) …`, which `endBody` builds on, is the record `emits (setBody s …) es` of `J`; the cells are those of `s`
    have := J.stop out.seen ((I.keys k).running hact) ⟨out, if_pos rfl⟩
    rwa [bodyEnded, endBody, stored_fixed]

section shapes
/-! `Inv.frame` and `Inv.body_ends` in the shapes `Move` has: nothing or one event logged (`emits s [] = s` and
`emits s [e] = emit s e` hold by unfolding). -/
variable {o : Owner} {b : BState} {e : Event} {out : Out}

-- not `nofun` in the next two: elaborating its empty match costs 400 thousand heartbeats
theorem Inv.frame0 (I : Inv p s) (hact : Active (s.body o)) (hok : BodyOK p s.cell o b) : Inv p (setBody s o b) :=
  I.frame b (es := []) hact hok (fun _ h => absurd h List.not_mem_nil) I.good

theorem Inv.body_ends0 (I : Inv p s) (hact : Active (s.body o)) : Inv p (bodyEnded s o out) :=
  I.body_ends out (es := []) hact (fun _ h => absurd h List.not_mem_nil) I.good

theorem Inv.frame1 (I : Inv p s) (hact : Active (s.body o)) (hok : BodyOK p s.cell o b) (he : e.callOf o)
    (hgood : GoodEvent p e s.log) : Inv p (emit (setBody s o b) e) :=
  I.frame b (es := [e]) hact hok (fun _ h => List.mem_singleton.mp h ▸ he) ⟨hgood, I.good⟩

theorem Inv.body_ends1 (I : Inv p s) (hact : Active (s.body o)) (he : e.callOf o) (hgood : GoodEvent p e s.log) :
    Inv p (bodyEnded (emit s e) o out) :=
  I.body_ends out (es := [e]) hact (fun _ h => List.mem_singleton.mp h ▸ he) ⟨hgood, I.good⟩

end shapes

theorem Inv.site_stopped (I : Inv p s) {o : Owner} {i : Nat} {rs : List RState} {cs : CallSpec}
    (hb : s.body o = .inCall i rs) (hc : (p o).calls[i]? = some cs) {j : Nat} {k : Key} {r : Res}
    (hk : cs.keys[j]? = some k) (hr : rs[j]? = some (.fin r)) : Event.stop k r ∈ s.log :=
  ((I.keys k).doneSame r r ((I.call hb hc).finDone j k r hk hr)).2

-- `fs` is given up to membership: the callers' `fs` is literally `[]`, `failures rs` or `[f]`, the list `GoodEvent.pan_intro`
-- wants, and for `[f]` only membership in `failures rs` is known
theorem Inv.finished_call (I : Inv p s) {o : Owner} {i : Nat} {rs : List RState} {cs : CallSpec}
    (hb : s.body o = .inCall i rs) (hc : (p o).calls[i]? = some cs)
    (hall : ∀ j : Nat, j < rs.length → ∃ r, rs[j]? = some (.fin r)) {fs : List (Int × String)}
    (hfs : ∀ g, g ∈ fs ↔ g ∈ failures rs) : FinishedCall s.log (cs.keys.take rs.length) fs := by
  have site : ∀ k ∈ cs.keys.take rs.length, ∃ (j : Nat) (r : Res), rs[j]? = some (.fin r) ∧ s.cell k = .done r r ∧ Event.stop k r ∈ s.log := by
    intro k hk
    obtain ⟨j, hj, hkj⟩ := mem_take_iff.mp hk
    obtain ⟨r, hr⟩ := hall j hj
    exact ⟨j, r, hr, (I.call hb hc).finDone j k r hkj hr, I.site_stopped hb hc hkj hr⟩
  refine ⟨fun k hk => ?_, fun f hf => ?_, fun k hk f hf => ?_⟩
  · obtain ⟨_, r, _, _, h⟩ := site k hk; exact ⟨r, h⟩
  · obtain ⟨j, hj⟩ := mem_failures.mp ((hfs f).mp hf)
    have hjl : j < rs.length := (List.getElem?_eq_some_iff.mp hj).1
    obtain ⟨k, hk⟩ := getElem?_of_lt (Nat.lt_of_lt_of_le hjl (I.call hb hc).lenLe)
    exact ⟨k, mem_take_iff.mpr ⟨j, hjl, hk⟩, I.site_stopped hb hc hk hj⟩
  · obtain ⟨j, r, hr, hcell, _⟩ := site k hk
    cases hcell.symm.trans ((I.keys k).stopCell _ hf)
    exact (hfs f).mpr (mem_failures.mpr ⟨j, hr⟩)

theorem Inv.step {s' : State} (I : Inv p s) (hm : Move p s s') : Inv p s' := by
  cases hm with
  | finish hb hc => exact I.body_ends0 (.of_ready hb)
  | @enterPar o i cs hb hc hser =>
    -- a `req` of a parallel call is bound to nothing
    have hok : CallOK s.cell cs (cs.keys.map fun _ => .want) :=
      .fresh (fun r hr => by obtain ⟨_, _, rfl⟩ := List.mem_map.mp hr; rfl) (by rw [List.length_map]; exact Nat.le_refl _)
        (fun h => by rw [hser] at h; cases h)
    have hev : ∀ e ∈ reqEvents ⟨o, i⟩ 0 cs.keys ++ [Event.enter ⟨o, i⟩], e.callOf o ∧ ∀ earlier, GoodEvent p e earlier := by
      intro e he
      rcases List.mem_append.mp he with h | h
      · obtain ⟨j', k', rfl⟩ := mem_reqEvents h
        exact ⟨rfl, fun _ => forall_calls_eq hc fun hs => by rw [hser] at hs; cases hs⟩
      · cases List.mem_singleton.mp h; exact ⟨rfl, fun _ => trivial⟩
    exact I.frame _ (.of_ready hb) ⟨cs, hc, hok⟩ (fun e he => (hev e he).1)
      (GoodLog.append I.good fun pre e post h => (hev e (by rw [h]; simp)).2 _)
  | @enterSer _ _ cs hb hc hser =>
    exact I.frame1 (.of_ready hb) ⟨cs, hc, .fresh (fun _ hr => nomatch hr) (Nat.zero_le _) (fun _ => rfl)⟩ rfl trivial
  | retPar hb hc hser hlen hfin hfs =>
    have fin := I.finished_call hb hc (fun _ => allFin_getElem? hfin) (fs := []) (fun g => by rw [hfs])
    rw [hlen, List.take_length] at fin
    refine I.frame1 (.of_inCall hb) trivial rfl (.ret_intro hc rfl fun k hk => ?_)
    obtain ⟨r, hr⟩ := fin.stopped k hk
    cases r with
    | none => exact hr
    | some f => exact absurd (fin.only k hk f hr) List.not_mem_nil
  | @panPar _ _ rs cs hb hc hser hlen hfin hfs =>
    have fin := I.finished_call hb hc (fun _ => allFin_getElem? hfin) fun _ => Iff.rfl
    rw [hlen, List.take_length] at fin
    exact I.body_ends1 (.of_inCall hb) rfl (.pan_intro hc fin hfs ⟨fun _ => rfl, cs.keys.length, List.take_length.symm⟩)
  | @serNext _ _ rs cs _ hb hc hser hl hk =>
    -- prefix ok and last ok: the element before the new one stopped without failure
    have hlt : rs.length < cs.keys.length := (List.getElem?_eq_some_iff.mp hk).1
    refine I.frame1 (.of_inCall hb) ⟨cs, hc, (I.call hb hc).snoc hlt hl⟩ rfl (forall_calls_eq hc fun _ j' hj' => ?_)
    obtain ⟨kp, hkp⟩ := getElem?_of_lt (show j' < cs.keys.length by omega)
    exact ⟨kp, hkp, I.site_stopped hb hc hkp (serial_all_ok ((I.call hb hc).serPrefix hser) hl (by omega))⟩
  | serRet hb hc hser hl hk =>
    refine I.frame1 (.of_inCall hb) trivial rfl
      (.ret_intro hc (List.take_of_length_le (List.getElem?_eq_none_iff.mp hk)) fun k hk => ?_)
    obtain ⟨j, hj, hkj⟩ := mem_take_iff.mp hk
    exact I.site_stopped hb hc hkj (serial_all_ok ((I.call hb hc).serPrefix hser) hl hj)
  | @serPan _ _ rs _ f hb hc hser hl =>
    have hpre := (I.call hb hc).serPrefix hser
    have hall : ∀ j : Nat, j < rs.length → ∃ r, rs[j]? = some (.fin r) := fun j hj => by
      rcases serial_last_failed hpre hl (List.getElem?_eq_getElem hj) with e | e <;>
        exact ⟨_, by rw [List.getElem?_eq_getElem hj, e]⟩
    have fin := I.finished_call hb hc hall (fs := [f]) fun g =>
      List.mem_singleton.trans (mem_failures_serial_iff hpre hl).symm
    exact I.body_ends1 (.of_inCall hb) rfl
      (.pan_intro hc fin (List.cons_ne_nil _ _) ⟨fun h => (by rw [hser] at h; cases h), rs.length, rfl⟩)
  | @siteWin o i rs cs j k0 hb hc hk hr =>
    -- `sawAbsent` does not occur, so the cell is absent: frame, then the body of `k0` starts
    have hwant : rs[j]? = some .want ∧ s.cell k0 = .absent :=
      hr.resolve_right fun h => (I.call hb hc).noSaw (List.mem_of_getElem? h)
    have J : Inv p (setBody s o (.inCall i (rs.set j .executing))) :=
      I.frame0 (.of_inCall hb) ⟨cs, hc, (I.call hb hc).set hk hwant.1 (by simp) (by simp) (by simp)⟩
    exact J.start hwant.2
  | @site _ _ _ cs _ k0 _ _ _ hb hc hk hr hcell hst =>
    exact I.frame0 (.of_inCall hb) ⟨cs, hc, (I.call hb hc).site hk hr hcell hst fun st se h => ((I.keys k0).doneSame st se h).1⟩

end MageModel.Deps
