import MageModel.Deps.Rel
/-! The invariant `Inv` of the dependency runtime: key by key (`KeyOK`), body by body (`BodyOK`), and two shapes of the event log:
`GoodLog`, and `LiveLog` — a call ends (`ret` / `pan`) only while its owner's body is still running, for a dependency `k` as
owner before `stop k`.  `Inv` is what the proofs use; `Inv1` and `Inv2` state the same facts for the whole state, follow from
it, and no proof uses them. -/
namespace MageModel.Deps

def starts (k : Key) (log : List Event) : Nat := log.count (.start k)

@[simp] theorem starts_cons (k : Key) (e : Event) (log : List Event) :
    starts k (e :: log) = starts k log + if e = .start k then 1 else 0 := by
  simp [starts, List.count_cons]

theorem starts_append (k : Key) (a b : List Event) : starts k (a ++ b) = starts k a + starts k b := by
  simp [starts, List.count_append]

theorem starts_pos_iff {k : Key} {l : List Event} : 0 < starts k l ↔ Event.start k ∈ l := List.count_pos_iff

theorem starts_append_noStart {k : Key} {es : List Event} (log : List Event) (h : .start k ∉ es) :
    starts k (es ++ log) = starts k log := by
  rw [starts_append, starts, List.count_eq_zero_of_not_mem h, Nat.zero_add]

/-- registry/once bookkeeping -/
structure Inv1 (p : Prog) (s : State) : Prop where
  once : ∀ k, starts k s.log = if s.cell k = .absent then 0 else 1
  noSaw : ∀ o i rs, s.body o = .inCall i rs → RState.sawAbsent ∉ rs
  bodyCell : ∀ k, s.cell k = .absent → s.body (.key k) = .idle
  doneEnded : ∀ k st se, s.cell k = .done st se → ∃ out, s.body (.key k) = .ended out

/-- What must hold of an event with respect to everything logged before it (`earlier`, newest first). -/
def GoodEvent (p : Prog) (e : Event) (earlier : List Event) : Prop :=
  match e with
  | .stop k _ => Event.start k ∈ earlier
  | .ret c reached =>
      (∀ k ∈ reached, Event.stop k none ∈ earlier) ∧
      (∀ cs, (p c.owner).calls[c.idx]? = some cs → reached = cs.keys)
  | .pan c reached code msgs =>
      (∀ k ∈ reached, ∃ r, Event.stop k r ∈ earlier) ∧
      (∃ fs : List (Int × String), fs ≠ [] ∧ code = exitOf fs ∧ msgs = fs.map Prod.snd ∧
        (∀ f ∈ fs, ∃ k ∈ reached, Event.stop k (some f) ∈ earlier) ∧
        (∀ k ∈ reached, ∀ f, Event.stop k (some f) ∈ earlier → f ∈ fs)) ∧
      (∀ cs, (p c.owner).calls[c.idx]? = some cs →
        (cs.serial = false → reached = cs.keys) ∧ (∃ n, reached = cs.keys.take n))
  | .req c j _ =>
      ∀ cs, (p c.owner).calls[c.idx]? = some cs → cs.serial = true → ∀ j', j = j' + 1 →
        ∃ kp, cs.keys[j']? = some kp ∧ Event.stop kp none ∈ earlier
  | _ => True

def GoodLog (p : Prog) : List Event → Prop
  | [] => True
  | e :: earlier => GoodEvent p e earlier ∧ GoodLog p earlier

theorem GoodLog.append {p : Prog} {es log : List Event} (hlog : GoodLog p log)
    (hes : ∀ pre e post, es = pre ++ e :: post → GoodEvent p e (post ++ log)) : GoodLog p (es ++ log) := by
  induction es with
  | nil => exact hlog
  | cons e rest ih =>
    refine ⟨hes [] e rest rfl, ih ?_⟩
    intro pre e' post h
    exact hes (e :: pre) e' post (by simp [h])

theorem GoodLog.suffix {p : Prog} {later l : List Event} (h : GoodLog p (later ++ l)) : GoodLog p l := by
  induction later with
  | nil => exact h
  | cons e rest ih => exact ih h.2

theorem GoodLog.at {p : Prog} {later earlier : List Event} {e : Event} (h : GoodLog p (later ++ e :: earlier)) :
    GoodEvent p e earlier ∧ GoodLog p earlier := GoodLog.suffix h

/-- What a call that ends knows: the keys `reached` have stopped, and `fs` are exactly their failures. -/
structure FinishedCall (log : List Event) (reached : List Key) (fs : List (Int × String)) : Prop where
  stopped : ∀ k ∈ reached, ∃ r, Event.stop k r ∈ log
  failed : ∀ f ∈ fs, ∃ k ∈ reached, Event.stop k (some f) ∈ log
  only : ∀ k ∈ reached, ∀ f, Event.stop k (some f) ∈ log → f ∈ fs

-- `GoodEvent`'s clauses of the form `∀ cs, (p c.owner).calls[c.idx]? = some cs → …` are proved for the call's own spec
theorem forall_calls_eq {p : Prog} {o : Owner} {i : Nat} {cs : CallSpec} (hc : (p o).calls[i]? = some cs) {Q : CallSpec → Prop}
    (h : Q cs) : ∀ cs', (p o).calls[i]? = some cs' → Q cs' := fun _ hc' => Option.some.inj (hc.symm.trans hc') ▸ h

theorem GoodEvent.ret_intro {p : Prog} {o : Owner} {i : Nat} {cs : CallSpec} {earlier : List Event} {reached : List Key}
    (hc : (p o).calls[i]? = some cs) (hshape : reached = cs.keys) (hstop : ∀ k ∈ reached, Event.stop k none ∈ earlier) :
    GoodEvent p (.ret ⟨o, i⟩ reached) earlier := ⟨hstop, forall_calls_eq hc hshape⟩

theorem GoodEvent.pan_intro {p : Prog} {o : Owner} {i : Nat} {cs : CallSpec} {earlier : List Event} {reached : List Key}
    {fs : List (Int × String)} (hc : (p o).calls[i]? = some cs) (fin : FinishedCall earlier reached fs) (hne : fs ≠ [])
    (hshape : (cs.serial = false → reached = cs.keys) ∧ ∃ n, reached = cs.keys.take n) :
    GoodEvent p (.pan ⟨o, i⟩ reached (exitOf fs) (fs.map Prod.snd)) earlier :=
  ⟨fin.stopped, ⟨fs, hne, rfl, rfl, fin.failed, fin.only⟩, forall_calls_eq hc hshape⟩

theorem GoodLog.start_of_stop {p : Prog} {l : List Event} {k : Key} {r : Res} (h : GoodLog p l) (hs : Event.stop k r ∈ l) :
    Event.start k ∈ l := by
  obtain ⟨pre, post, rfl⟩ := List.append_of_mem hs
  exact mem_of_mem_earlier rfl (GoodLog.at h).1

/-- what finished goroutines know, what a `done` cell and a `stop` event say of each other, the shape of the log -/
structure Inv2 (p : Prog) (s : State) : Prop where
  finDone : ∀ (o : Owner) (i : Nat) (rs : List RState) (cs : CallSpec) (j : Nat) (k : Key) (r : Res), s.body o = .inCall i rs → (p o).calls[i]? = some cs → cs.keys[j]? = some k →
      rs[j]? = some (RState.fin r) → s.cell k = .done r r
  doneSame : ∀ k st se, s.cell k = .done st se → st = se ∧ Event.stop k st ∈ s.log
  stopCell : ∀ k r, Event.stop k r ∈ s.log → s.cell k = .done r r
  serPrefix : ∀ (o : Owner) (i : Nat) (rs : List RState) (cs : CallSpec), s.body o = .inCall i rs → (p o).calls[i]? = some cs → cs.serial = true →
      ∀ j : Nat, j + 1 < rs.length → rs[j]? = some (RState.fin none)
  lenLe : ∀ o i rs cs, s.body o = .inCall i rs → (p o).calls[i]? = some cs → rs.length ≤ cs.keys.length
  good : GoodLog p s.log

/-- the owner of a call that ends has not stopped -/
def LiveEvent (e : Event) (earlier : List Event) : Prop :=
  match e with
  | .ret c _ => ∀ k, c.owner = .key k → ∀ r, Event.stop k r ∉ earlier
  | .pan c _ _ _ => ∀ k, c.owner = .key k → ∀ r, Event.stop k r ∉ earlier
  | _ => True

def LiveLog : List Event → Prop
  | [] => True
  | e :: earlier => LiveEvent e earlier ∧ LiveLog earlier

theorem LiveLog.append {es log : List Event} (hlog : LiveLog log)
    (hes : ∀ pre e post, es = pre ++ e :: post → LiveEvent e (post ++ log)) : LiveLog (es ++ log) := by
  induction es with
  | nil => exact hlog
  | cons e rest ih =>
    refine ⟨hes [] e rest rfl, ih ?_⟩
    intro pre e' post h
    exact hes (e :: pre) e' post (by simp [h])

theorem LiveLog.suffix {later l : List Event} (h : LiveLog (later ++ l)) : LiveLog l := by
  induction later with
  | nil => exact h
  | cons e rest ih => exact ih h.2

/-- What the invariant says about the once-cell of one key: cell, body and the `start`/`stop` events of `k` move together. -/
structure KeyOK (s : State) (k : Key) : Prop where
  once : starts k s.log = if s.cell k = .absent then 0 else 1
  bodyCell : s.cell k = .absent → s.body (.key k) = .idle
  doneEnded : ∀ st se, s.cell k = .done st se → ∃ out, s.body (.key k) = .ended out
  doneSame : ∀ st se, s.cell k = .done st se → st = se ∧ Event.stop k st ∈ s.log
  stopCell : ∀ r, Event.stop k r ∈ s.log → s.cell k = .done r r

/-- What the invariant says about the goroutines `rs` of a call with spec `cs`, given the cells. -/
structure CallOK (cell : Key → Cell) (cs : CallSpec) (rs : List RState) : Prop where
  noSaw : RState.sawAbsent ∉ rs
  lenLe : rs.length ≤ cs.keys.length
  finDone : ∀ (j : Nat) (k : Key) (r : Res), cs.keys[j]? = some k → rs[j]? = some (.fin r) → cell k = .done r r
  serPrefix : cs.serial = true → ∀ j : Nat, j + 1 < rs.length → rs[j]? = some (.fin none)

/-- an owner inside a call is inside a call its program has, and the goroutines are as `CallOK` says -/
def BodyOK (p : Prog) (cell : Key → Cell) (o : Owner) : BState → Prop
  | .inCall i rs => ∃ cs, (p o).calls[i]? = some cs ∧ CallOK cell cs rs
  | _ => True

structure Inv (p : Prog) (s : State) : Prop where
  keys : ∀ k, KeyOK s k
  bodies : ∀ o, BodyOK p s.cell o (s.body o)
  good : GoodLog p s.log
  live : LiveLog s.log

theorem Inv.call {p : Prog} {s : State} {o : Owner} {i : Nat} {rs : List RState} {cs : CallSpec} (I : Inv p s)
    (hb : s.body o = .inCall i rs) (hc : (p o).calls[i]? = some cs) : CallOK s.cell cs rs := by
  obtain ⟨cs', hc', h⟩ := (hb ▸ I.bodies o : BodyOK p s.cell o (.inCall i rs))
  cases hc'.symm.trans hc
  exact h

theorem Inv.inv1 {p : Prog} {s : State} (I : Inv p s) : Inv1 p s where
  once k := (I.keys k).once
  noSaw o i rs hb := by
    obtain ⟨_, _, h⟩ := (hb ▸ I.bodies o : BodyOK p s.cell o (.inCall i rs))
    exact h.noSaw
  bodyCell k := (I.keys k).bodyCell
  doneEnded k := (I.keys k).doneEnded

theorem Inv.inv2 {p : Prog} {s : State} (I : Inv p s) : Inv2 p s where
  finDone _ _ _ _ j k r hb hc := (I.call hb hc).finDone j k r
  doneSame k := (I.keys k).doneSame
  stopCell k := (I.keys k).stopCell
  serPrefix _ _ _ _ hb hc := (I.call hb hc).serPrefix
  lenLe _ _ _ _ hb hc := (I.call hb hc).lenLe
  good := I.good

theorem Inv.init (p : Prog) (roots : List Nat) : Inv p (State.init roots) where
  keys k :=
    { once := rfl
      bodyCell := fun _ => rfl
      doneEnded := fun _ _ hc => by cases hc
      doneSame := fun _ _ hc => by cases hc
      stopCell := fun _ hr => absurd hr List.not_mem_nil }
  bodies o := by
    cases o with
    | root r => simp only [State.init]; split <;> trivial
    | key k => trivial
  good := trivial
  live := trivial

end MageModel.Deps
