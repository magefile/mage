import MageModel.Deps.Reach
/-! Two facts about the log of a reachable state beyond `GoodLog`: no call made by the body of `k` ends after `stop k`
(from `LiveLog`; with the barrier of C02 this gives the transitive statement: when a call ends, everything the dependencies
it named had themselves waited on has finished too), and a dependency whose own call panicked has itself failed (`PanStops`). -/
namespace MageModel.Deps

theorem reach_live (p : Prog) (roots : List Nat) (sched : List Agent) : LiveLog (reach p roots sched).log :=
  (reach_inv p roots sched).live

theorem LiveLog.no_end_after_stop {later earlier : List Event} (h : LiveLog (later ++ earlier)) {k : Key} {r : Res}
    (hs : Event.stop k r ∈ earlier) {e : Event} (he : e ∈ later) {c : CallId} {reached : List Key} (hown : c.owner = .key k)
    (hend : e = .ret c reached ∨ ∃ code msgs, e = .pan c reached code msgs) : False := by
  obtain ⟨pre, post, rfl⟩ := List.append_of_mem he
  rw [List.append_assoc] at h
  have hlive : LiveEvent e (post ++ earlier) := (LiveLog.suffix h).1
  rcases hend with rfl | ⟨code, msgs, rfl⟩ <;> exact hlive k hown r (List.mem_append_right _ hs)

/-- a dependency whose own call panicked has itself failed: the panic ends its body -/
def PanStops (log : List Event) : Prop :=
  ∀ c reached code msgs k, Event.pan c reached code msgs ∈ log → c.owner = .key k → ∃ f, Event.stop k (some f) ∈ log

theorem PanStops.append {log : List Event} (P : PanStops log) (es : List Event)
    (hes : ∀ c reached code msgs k, Event.pan c reached code msgs ∈ es → c.owner = .key k → ∃ f, Event.stop k (some f) ∈ es) :
    PanStops (es ++ log) := by
  intro c reached code msgs k hmem hown
  rcases List.mem_append.mp hmem with h | h
  · obtain ⟨f, hf⟩ := hes c reached code msgs k h hown
    exact ⟨f, List.mem_append_left _ hf⟩
  · obtain ⟨f, hf⟩ := P c reached code msgs k h hown
    exact ⟨f, List.mem_append_right _ hf⟩

-- `PanStops` is not a field of `Inv`: `Inv.body_ends` is `Inv.frame` followed by `Inv.stop`, and between the two the `pan` is
-- logged without the `stop`.
theorem PanStops.step {p : Prog} {s s' : State} (P : PanStops s.log) (hm : Move p s s') : PanStops s'.log := by
  -- every move only prepends events; the two that prepend a `pan` prepend the owner's failing `stop` with it
  have quiet : ∀ e : Event, (∀ c r cd m, e ≠ .pan c r cd m) → PanStops (e :: s.log) := fun e he =>
    P.append [e] fun c r cd m _ h => absurd (List.mem_singleton.mp h).symm (he c r cd m)
  have panicked : ∀ o i {reached code msgs} fs,
      PanStops (bodyEnded (emit s (.pan ⟨o, i⟩ reached code msgs)) o (panicOut fs)).log := by
    intro o i reached code msgs fs
    rw [bodyEnded_log]
    cases o with
    | root r => exact P.append [_] fun c _ _ _ k h hown => by cases List.mem_singleton.mp h; cases hown
    | key k0 =>
      refine P.append [_, _] fun c _ _ _ k h hown => ?_
      rcases List.mem_cons.mp h with h | h
      · cases h
      · cases List.mem_singleton.mp h; cases hown; exact ⟨_, List.mem_cons_self⟩
  cases hm with
  | @finish o =>
    rw [bodyEnded_log]
    cases o with
    | root r => exact P
    | key k => exact quiet _ (by simp)
  | enterPar =>
    refine P.append _ fun c r cd m _ h => ?_
    rcases List.mem_append.mp h with h | h
    · obtain ⟨_, _, e⟩ := mem_reqEvents h; cases e
    · cases List.mem_singleton.mp h
  | enterSer | retPar | serNext | serRet | siteWin => exact quiet _ (by simp)
  | @panPar o i | @serPan o i => exact panicked o i _
  | site => exact P

theorem reach_panStops (p : Prog) (roots : List Nat) (sched : List Agent) : PanStops (reach p roots sched).log :=
  run_invariant p (fun s => PanStops s.log) (fun _ _ => PanStops.step) _ (fun _ _ _ _ _ h => absurd h List.not_mem_nil) sched

end MageModel.Deps
