import MageModel.Deps.Step
/-! Every state reachable under any schedule satisfies `Inv`; what the theorems of `Props` read off an event of its log. -/
namespace MageModel.Deps

/-- the state after running `sched` from the initial state with root goroutines `roots` -/
def reach (p : Prog) (roots : List Nat) (sched : List Agent) : State :=
  run Cfg.fixed p (State.init roots) sched

theorem reach_inv (p : Prog) (roots : List Nat) (sched : List Agent) : Inv p (reach p roots sched) :=
  run_invariant p (Inv p) (fun _ _ => Inv.step) _ (Inv.init p roots) sched

theorem reach_good {p : Prog} {roots : List Nat} {sched : List Agent} {later earlier : List Event} {e : Event}
    (hlog : (reach p roots sched).log = later ++ e :: earlier) : GoodEvent p e earlier :=
  (GoodLog.at (hlog ▸ (reach_inv p roots sched).good)).1

theorem reached_stopped {p : Prog} {roots : List Nat} {sched : List Agent} {later earlier : List Event} {e : Event}
    {c : CallId} {reached : List Key} (hlog : (reach p roots sched).log = later ++ e :: earlier)
    (he : e = .ret c reached ∨ ∃ code msgs, e = .pan c reached code msgs) :
    ∀ k ∈ reached, ∃ r, Event.stop k r ∈ earlier := by
  intro k hk
  rcases he with rfl | ⟨code, msgs, rfl⟩
  · exact ⟨none, (reach_good hlog).1 k hk⟩
  · exact (reach_good hlog).1 k hk

end MageModel.Deps
