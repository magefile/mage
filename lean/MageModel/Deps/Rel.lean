import MageModel.Deps.Sem
/-!
The moves of `step Cfg.fixed` as an inductive relation with one constructor per kind of move, and the proof
that the executable `step` only ever stutters or takes one of these moves.  All invariants are proved by cases
on this relation.
-/
namespace MageModel.Deps

@[simp] theorem setCell_cell (s : State) (k : Key) (c : Cell) (k' : Key) :
    (setCell s k c).cell k' = if k' = k then c else s.cell k' := rfl
@[simp] theorem setCell_body (s : State) (k : Key) (c : Cell) : (setCell s k c).body = s.body := rfl
@[simp] theorem setCell_log (s : State) (k : Key) (c : Cell) : (setCell s k c).log = s.log := rfl
@[simp] theorem setBody_cell (s : State) (o : Owner) (b : BState) : (setBody s o b).cell = s.cell := rfl
@[simp] theorem setBody_body (s : State) (o : Owner) (b : BState) (o' : Owner) :
    (setBody s o b).body o' = if o' = o then b else s.body o' := rfl
@[simp] theorem setBody_log (s : State) (o : Owner) (b : BState) : (setBody s o b).log = s.log := rfl
@[simp] theorem emit_cell (s : State) (e : Event) : (emit s e).cell = s.cell := rfl
@[simp] theorem emit_body (s : State) (e : Event) : (emit s e).body = s.body := rfl
@[simp] theorem emit_log (s : State) (e : Event) : (emit s e).log = e :: s.log := rfl
@[simp] theorem emits_cell (s : State) (es : List Event) : (emits s es).cell = s.cell := rfl
@[simp] theorem emits_body (s : State) (es : List Event) : (emits s es).body = s.body := rfl
@[simp] theorem emits_log (s : State) (es : List Event) : (emits s es).log = es ++ s.log := rfl

theorem mem_reqEvents {c : CallId} {j : Nat} {ks : List Key} {e : Event} (h : e ∈ reqEvents c j ks) :
    ∃ j' k', e = .req c j' k' := by
  induction ks generalizing j with
  | nil => simp [reqEvents] at h
  | cons k ks ih =>
    simp only [reqEvents, List.mem_append, List.mem_singleton] at h
    rcases h with h | h
    · exact ih h
    · exact ⟨j, k, h⟩

theorem mem_failures {rs : List RState} {f : Int × String} :
    f ∈ failures rs ↔ ∃ j : Nat, rs[j]? = some (RState.fin (some f)) := by
  rw [← List.mem_iff_getElem?]
  fun_induction failures rs with
  | case1 => simp
  | case2 g rs ih => simp [ih]
  | case3 r rs hr ih => rw [ih, List.mem_cons, or_iff_right fun e => hr f e.symm]

theorem allFin_getElem? {rs : List RState} (h : rs.all RState.isFin = true) {j : Nat} (hj : j < rs.length) :
    ∃ r, rs[j]? = some (.fin r) := by
  have := List.all_eq_true.mp h rs[j] (List.getElem_mem hj)
  rw [List.getElem?_eq_getElem hj]
  cases hr : rs[j] <;> simp [hr, RState.isFin] at this ⊢

-- The list facts below speak of `l[j]?`: a bound left to `get_elem_tactic`, as in `cs.keys[j]`, costs over a million
-- heartbeats each time.
theorem getElem?_of_lt {α} {l : List α} {j : Nat} (h : j < l.length) : ∃ a, l[j]? = some a :=
  ⟨l[j], List.getElem?_eq_getElem h⟩

theorem mem_take_iff {α} {l : List α} {n : Nat} {a : α} : a ∈ l.take n ↔ ∃ j : Nat, j < n ∧ l[j]? = some a := by
  simp only [List.mem_iff_getElem?, List.getElem?_take]
  constructor
  · rintro ⟨j, h⟩; split at h
    · exact ⟨j, ‹_›, h⟩
    · cases h
  · rintro ⟨j, hj, h⟩; exact ⟨j, by rw [if_pos hj]; exact h⟩

theorem getElem?_set_ne' {rs : List RState} {j j' : Nat} {r : RState} (h : j ≠ j') : (rs.set j r)[j']? = rs[j']? :=
  List.getElem?_set_ne h

theorem getElem?_set_self' {rs : List RState} {j : Nat} {r r' : RState} (h : rs[j]? = some r') : (rs.set j r)[j]? = some r := by
  rw [List.getElem?_set_self (List.getElem?_eq_some_iff.mp h).1]

theorem mem_of_mem_earlier {log later earlier : List Event} {e x : Event} (hlog : log = later ++ e :: earlier)
    (h : x ∈ earlier) : x ∈ log := hlog ▸ List.mem_append_right _ (List.mem_cons_of_mem _ h)

theorem serial_all_ok {rs : List RState} (hpre : ∀ j : Nat, j + 1 < rs.length → rs[j]? = some (.fin none))
    (hl : rs.getLast? = none ∨ rs.getLast? = some (.fin none)) {j : Nat} (hj : j < rs.length) : rs[j]? = some (.fin none) := by
  by_cases h : j + 1 < rs.length
  · exact hpre j h
  · rcases hl with hl | hl
    · rw [List.getLast?_eq_none_iff] at hl; subst hl; cases hj
    · rw [List.getLast?_eq_getElem?] at hl
      rwa [show j = rs.length - 1 by omega]

theorem serial_last_failed {rs : List RState} {f : Int × String}
    (hpre : ∀ j : Nat, j + 1 < rs.length → rs[j]? = some (.fin none)) (hl : rs.getLast? = some (.fin (some f)))
    {j : Nat} {r : RState} (hj : rs[j]? = some r) : r = .fin none ∨ r = .fin (some f) := by
  rw [List.getLast?_eq_getElem?] at hl
  have hjl := (List.getElem?_eq_some_iff.mp hj).1
  by_cases h : j + 1 < rs.length
  · exact .inl (Option.some.inj (hj.symm.trans (hpre j h)))
  · rw [show rs.length - 1 = j by omega] at hl
    exact .inr (Option.some.inj (hj.symm.trans hl))

theorem mem_failures_serial_iff {rs : List RState} {f g : Int × String}
    (hpre : ∀ j : Nat, j + 1 < rs.length → rs[j]? = some (.fin none)) (hl : rs.getLast? = some (.fin (some f))) :
    g ∈ failures rs ↔ g = f := by
  rw [mem_failures]
  constructor
  · rintro ⟨j, hj⟩
    rcases serial_last_failed hpre hl hj with e | e
    · cases e
    · cases e; rfl
  · rintro rfl
    rw [List.getLast?_eq_getElem?] at hl
    exact ⟨_, hl⟩

theorem stored_fixed (out : Out) : Cfg.fixed.stored out = out.seen := by
  cases out <;> simp [Cfg.stored, Cfg.fixed, Out.seen]

/-- the state after owner `o`'s body ended with `out` (fixed configuration: stored = seen) -/
def bodyEnded (s : State) (o : Owner) (out : Out) : State := endBody Cfg.fixed s o out

theorem bodyEnded_log (s : State) (o : Owner) (out : Out) :
    (bodyEnded s o out).log = match o with
      | .root _ => s.log
      | .key k => .stop k out.seen :: s.log := by
  cases o <;> rfl

/-- What a goroutine in state `r` that does not start the body does when the cell of its key is `c`. -/
inductive SiteStep : Cell → RState → RState → Prop where
  | block : SiteStep .running .want .blocked
  /-- a goroutine that did not run the body reads the stored error -/
  | read (st se) : SiteStep (.done st se) .want (.fin st)
  | wake (st se) : SiteStep (.done st se) .blocked (.fin st)
  /-- the goroutine that ran the body gets the body's own outcome -/
  | own (st se) : SiteStep (.done st se) .executing (.fin se)

inductive Move (p : Prog) : State → State → Prop where
  /-- a body with no further call finishes -/
  | finish {s o i} : s.body o = .ready i → (p o).calls[i]? = none → Move p s (bodyEnded s o (p o).out)
  /-- parallel call: all goroutines are created -/
  | enterPar {s o i cs} : s.body o = .ready i → (p o).calls[i]? = some cs → cs.serial = false →
      Move p s (emits (setBody s o (.inCall i (cs.keys.map fun _ => .want))) (reqEvents ⟨o, i⟩ 0 cs.keys ++ [.enter ⟨o, i⟩]))
  | enterSer {s o i cs} : s.body o = .ready i → (p o).calls[i]? = some cs → cs.serial = true →
      Move p s (emit (setBody s o (.inCall i [])) (.enter ⟨o, i⟩))
  /-- parallel call returns: every goroutine finished, none failed -/
  | retPar {s o i rs cs} : s.body o = .inCall i rs → (p o).calls[i]? = some cs → cs.serial = false →
      rs.length = cs.keys.length → rs.all RState.isFin = true → failures rs = [] →
      Move p s (emit (setBody s o (.ready (i+1))) (.ret ⟨o, i⟩ cs.keys))
  /-- parallel call panics: every goroutine finished, some failed; the owner's body ends with that panic -/
  | panPar {s o i rs cs} : s.body o = .inCall i rs → (p o).calls[i]? = some cs → cs.serial = false →
      rs.length = cs.keys.length → rs.all RState.isFin = true → failures rs ≠ [] →
      Move p s (bodyEnded (emit s (.pan ⟨o, i⟩ cs.keys (exitOf (failures rs)) ((failures rs).map Prod.snd))) o (panicOut (failures rs)))
  /-- serial call: the next element's goroutine is created (the previous one, if any, finished without failure) -/
  | serNext {s o i rs cs k} : s.body o = .inCall i rs → (p o).calls[i]? = some cs → cs.serial = true →
      (rs.getLast? = none ∨ rs.getLast? = some (.fin none)) → cs.keys[rs.length]? = some k →
      Move p s (emit (setBody s o (.inCall i (rs ++ [.want]))) (.req ⟨o, i⟩ rs.length k))
  | serRet {s o i rs cs} : s.body o = .inCall i rs → (p o).calls[i]? = some cs → cs.serial = true →
      (rs.getLast? = none ∨ rs.getLast? = some (.fin none)) → cs.keys[rs.length]? = none →
      Move p s (emit (setBody s o (.ready (i+1))) (.ret ⟨o, i⟩ (cs.keys.take rs.length)))
  | serPan {s o i rs cs f} : s.body o = .inCall i rs → (p o).calls[i]? = some cs → cs.serial = true →
      rs.getLast? = some (.fin (some f)) →
      Move p s (bodyEnded (emit s (.pan ⟨o, i⟩ (cs.keys.take rs.length) (exitOf [f]) [f.2])) o (panicOut [f]))
  /-- a goroutine wins the once and starts the body (`sawAbsent` does not occur under `Cfg.fixed`: `CallOK.noSaw`) -/
  | siteWin {s o i rs cs j k} : s.body o = .inCall i rs → (p o).calls[i]? = some cs → cs.keys[j]? = some k →
      (rs[j]? = some .want ∧ s.cell k = .absent ∨ rs[j]? = some .sawAbsent) →
      Move p s (emit (setBody (setCell (setBody s o (.inCall i (rs.set j .executing))) k .running) (.key k) (.ready 0)) (.start k))
  /-- a goroutine that does not start the body moves on according to the cell of its key -/
  | site {s o i rs cs j k r r' c} : s.body o = .inCall i rs → (p o).calls[i]? = some cs → cs.keys[j]? = some k →
      rs[j]? = some r → s.cell k = c → SiteStep c r r' → Move p s (setBody s o (.inCall i (rs.set j r')))

theorem stepSite_sound (p : Prog) (s : State) (o : Owner) (j : Nat) :
    stepSite Cfg.fixed p s o j = s ∨ Move p s (stepSite Cfg.fixed p s o j) := by
  fun_cases stepSite Cfg.fixed p s o j
  -- `want`, cell absent, `atomicOnce`
  case case2 => exact .inr (.siteWin ‹_› ‹_› ‹_› (.inl ⟨‹_›, ‹_›⟩))
  -- `want`, cell absent, not `atomicOnce`
  case case3 => exact absurd rfl ‹¬Cfg.fixed.atomicOnce = true›
  -- `want`, cell running
  case case4 => exact .inr (.site ‹_› ‹_› ‹_› ‹_› ‹_› .block)
  -- `want`, cell done
  case case5 => exact .inr (.site ‹_› ‹_› ‹_› ‹_› ‹_› (.read _ _))
  -- `sawAbsent`
  case case6 => exact .inr (.siteWin ‹_› ‹_› ‹_› (.inr ‹_›))
  -- `blocked`, cell done
  case case7 => exact .inr (.site ‹_› ‹_› ‹_› ‹_› ‹_› (.wake _ _))
  -- `executing`, cell done
  case case9 => exact .inr (.site ‹_› ‹_› ‹_› ‹_› ‹_› (.own _ _))
  all_goals exact .inl rfl

theorem stepOwner_sound (p : Prog) (s : State) (o : Owner) :
    stepOwner Cfg.fixed p s o = s ∨ Move p s (stepOwner Cfg.fixed p s o) := by
  have ser : ∀ {b : Bool}, (b && Cfg.fixed.serialOneByOne) = true → b = true := fun h => by simpa [Cfg.fixed] using h
  have par : ∀ {b : Bool}, ¬(b && Cfg.fixed.serialOneByOne) = true → b = false := fun h => by simpa [Cfg.fixed] using h
  have waited : ∀ {b : Bool}, ¬(Cfg.fixed.waitAll && !b) = true → b = true := fun h => by simpa [Cfg.fixed] using h
  fun_cases stepOwner Cfg.fixed p s o
  -- `ready`, no further call
  case case1 => exact .inr (.finish ‹_› ‹_›)
  -- `ready`, serial call
  case case2 => exact .inr (.enterSer ‹_› ‹_› (ser ‹_›))
  -- `ready`, parallel call
  case case3 => exact .inr (.enterPar ‹_› ‹_› (par ‹_›))
  -- `inCall`, serial, last goroutine failed
  case case5 => exact .inr (.serPan ‹_› ‹_› (ser ‹_›) ‹_›)
  -- `inCall`, serial, last goroutine succeeded, list exhausted / not exhausted
  case case6 => exact .inr (.serRet ‹_› ‹_› (ser ‹_›) (.inr ‹_›) ‹_›)
  case case7 => exact .inr (.serNext ‹_› ‹_› (ser ‹_›) (.inr ‹_›) ‹_›)
  -- `inCall`, serial, no goroutine yet, list empty / not empty
  case case8 => exact .inr (.serRet ‹_› ‹_› (ser ‹_›) (.inl ‹_›) ‹_›)
  case case9 => exact .inr (.serNext ‹_› ‹_› (ser ‹_›) (.inl ‹_›) ‹_›)
  -- `inCall`, parallel, all created and finished, no failure
  case case13 =>
    exact .inr (.retPar ‹_› ‹_› (par ‹_›) (Decidable.of_not_not ‹_›) ‹_› (List.isEmpty_iff.mp ‹_›))
  -- `inCall`, parallel, all created and finished, some failure
  case case15 =>
    exact .inr (.panPar ‹_› ‹_› (par ‹_›) (Decidable.of_not_not ‹_›) (waited ‹_›)
      fun e => ‹¬(failures _).isEmpty = true› (by rw [e]; rfl))
  all_goals exact .inl rfl

theorem step_sound (p : Prog) (s : State) (a : Agent) :
    step Cfg.fixed p s a = s ∨ Move p s (step Cfg.fixed p s a) := by
  cases a with
  | owner o => exact stepOwner_sound p s o
  | site o j => exact stepSite_sound p s o j

theorem run_invariant (p : Prog) (I : State → Prop) (hstep : ∀ s s', I s → Move p s s' → I s')
    (s : State) (h0 : I s) (sched : List Agent) : I (run Cfg.fixed p s sched) := by
  induction sched generalizing s with
  | nil => exact h0
  | cons a rest ih =>
    simp only [run, List.foldl_cons]
    apply ih
    rcases step_sound p s a with h | h
    · rw [h]; exact h0
    · exact hstep _ _ h0 h

end MageModel.Deps
