/-
`mage.Invoke` (mage/main.go:315-464) as a function over an abstract world, with a fault at any step.

World: per magefile directory the state of the generated main file, and the cache directory as a finite map from
executable path to the sources the binary was built from.  The other files of a magefile directory are not in the
world at all: no step writes them (that claim is the tie's: strace-checked fault-injected runs).
`Src` identifies a set of magefile contents (+ template + toolchain): what a binary is a function of.
-/
namespace MageModel.Invoke

/-- the generated main file in a magefile directory -/
inductive MainState where
  | absent
  | headless   -- a prefix too short to contain the whole `//go:build ignore` line (or empty): not skippable by go/build
  | truncated  -- a longer prefix: carries the ignore constraint, is not a complete Go file
  | full
  deriving DecidableEq, Repr

structure World (Src : Type) where
  main : Nat → MainState           -- by directory
  cache : Nat → Option Src         -- executable path ↦ what it was built from

def World.setMain {Src} (w : World Src) (d : Nat) (m : MainState) : World Src :=
  { w with main := fun d' => if d' = d then m else w.main d' }
def World.setExe {Src} (w : World Src) (p : Nat) (s : Src) : World Src :=
  { w with cache := fun p' => if p' = p then some s else w.cache p' }

/-- which part of GenerateMainfile fails -/
inductive GenFault where
  | none | create
  | write (early : Bool)     -- the template output fails midway; `early`: before the constraint line was complete
  | close | chtimes
  deriving DecidableEq, Repr

/-- one Boolean per step of Invoke that can fail (the go tool, the file system, the parser) -/
structure Faults where
  list : Bool := false       -- Magefiles(): go/build listing (or `go env`) fails
  noFiles : Bool := false    -- the listing is empty
  exeName : Bool := false    -- hashing a file or `go version` fails
  goEnv : Bool := false      -- `go env GOCACHE` fails
  parse : Bool := false      -- parse.PrimaryPackage: syntax error, `go list`, duplicate targets
  gen : GenFault := .none
  compile : Bool := false    -- `go build` fails
  start : Bool := false      -- the binary cannot be started
  deriving DecidableEq, Repr

def Faults.none : Faults := {}

/-- the facts about the code that the theorems depend on (regenerated and bridged) -/
structure Cfg where
  deferBeforeGenerate : Bool   -- `defer os.RemoveAll(main)` is registered before GenerateMainfile (D12)
  explicitRemove : Bool        -- main is removed after a successful compile, before the binary runs
  listSkipsMain : Bool         -- the directory listing never looks at mage_output_file.go (D11)
  deriving DecidableEq, Repr

def Cfg.fixed : Cfg := ⟨true, true, true⟩

/-- one invocation, after flag parsing and the choice of the magefile directory -/
structure Run (Src : Type) where
  dir : Nat                       -- the magefile directory
  src : Src                       -- its current magefile contents
  keep : Bool := false
  force : Bool := false
  hashFast : Bool := false
  goCache : Bool := true          -- `go env GOCACHE` is non-empty
  compileOut : Option Nat := none -- `-compile path`

/-- `os.Exit` status as the parent sees it -/
def osStatus (c : Int) : Int := c % 256

variable {Src : Type}

/-- result of an invocation: the world it leaves, its exit status, and which program (built from which sources) it
started, if any -/
structure Res (Src : Type) where
  world : World Src
  status : Int
  ran : Option Src := none
  built : Bool := false          -- `go build` ran successfully in this invocation

/-- RunCompiled: start the executable at `exe` -/
def runCompiled (runBin : Src → Int) (F : Faults) (w : World Src) (exe : Nat) : Res Src :=
  match w.cache exe with
  | none => { world := w, status := 1 }                  -- "failed to run compiled magefile"
  | some s => if F.start then { world := w, status := 1 } else { world := w, status := osStatus (runBin s), ran := some s }

/-- what `defer os.RemoveAll(main)` / the explicit removal do -/
def cleanup (r : Run Src) (w : World Src) : World Src := if r.keep then w else w.setMain r.dir .absent

/-- the path of the executable: `-compile`'s argument, else the cache name of the sources -/
def exePath (name : Src → Nat) (r : Run Src) : Nat := r.compileOut.getD (name r.src)

/-- the code's `useCache`: the Go build cache exists and MAGEFILE_HASHFAST is off, so every invocation rebuilds -/
def rebuildAlways (r : Run Src) : Bool := !r.hashFast && r.goCache

/-- effect of the deferred removal on a path that leaves Invoke during (`early`) or after GenerateMainfile -/
def deferred (cfg : Cfg) (r : Run Src) (early : Bool) (w : World Src) : World Src :=
  if early && !cfg.deferBeforeGenerate then w else cleanup r w

/-- the world after a successful generate + compile (+ explicit removal) -/
def built (cfg : Cfg) (name : Src → Nat) (r : Run Src) (w : World Src) : World Src :=
  if cfg.explicitRemove then cleanup r ((w.setMain r.dir .full).setExe (exePath name r) r.src)
  else (w.setMain r.dir .full).setExe (exePath name r) r.src

/-- generate, compile, run: the part of Invoke after the decision to (re)build -/
def buildAndRun (cfg : Cfg) (name : Src → Nat) (runBin : Src → Int) (r : Run Src) (F : Faults) (w : World Src) : Res Src :=
  match F.gen with
  | .create => { world := deferred cfg r true w, status := 1 }
  | .write early => { world := deferred cfg r true (w.setMain r.dir (if early then .headless else .truncated)), status := 1 }
  | .close => { world := deferred cfg r true (w.setMain r.dir .full), status := 1 }
  | .chtimes => { world := deferred cfg r true (w.setMain r.dir .full), status := 1 }
  | .none =>
    if F.compile then { world := deferred cfg r false (w.setMain r.dir .full), status := 1 }
    else if r.compileOut.isSome then { world := deferred cfg r false (built cfg name r w), status := 0, built := true }
    else
      let rc := runCompiled runBin F (built cfg name r w) (exePath name r)
      { world := deferred cfg r false rc.world, status := rc.status, ran := rc.ran, built := true }

/-- Invoke from the listing of the magefiles on. `name` is ExeName as a function of the sources. -/
def invoke (cfg : Cfg) (name : Src → Nat) (runBin : Src → Int) (r : Run Src) (F : Faults) (w : World Src) : Res Src :=
  -- Magefiles(): a main file without its constraint line makes go/build fail unless the listing skips it
  if F.list || (!cfg.listSkipsMain && w.main r.dir == .headless) then { world := w, status := 1 }
  else if F.noFiles then { world := w, status := 1 }
  else if r.compileOut.isNone && F.exeName then { world := w, status := 1 }
  else if !r.hashFast && F.goEnv then { world := w, status := 1 }
  else if !rebuildAlways r && (w.cache (exePath name r)).isSome && !r.force then runCompiled runBin F w (exePath name r)
  else if F.parse then { world := w, status := 1 }
  else buildAndRun cfg name runBin r F w

end MageModel.Invoke
