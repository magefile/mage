import MageModel.Invoke.Cache
import MageModel.Parse.PkgLemmas
/-!
The text whose hash is the cache file name is equal-width hex blocks, then the key, then the version: it decodes in one way
only (`blocks_key_decode`), which makes the name injective as far as SHA-1 is.
-/
namespace MageModel.Invoke.Sha1

-- `digestOf` appends five lists of four bytes, whatever the state
theorem sum_length (msg : ByteArray) : (sum msg).length = 20 := rfl

theorem hex_length (bs : List UInt8) : (hex bs).toList.length = 2 * bs.length := by
  simp only [hex, String.toList_ofList, List.length_flatMap, List.length_cons, List.length_nil]
  induction bs with
  | nil => rfl
  | cons a as ih => simp only [List.map_cons, List.sum_cons, ih, List.length_cons]; omega

theorem not_mem_hex {c : Char} (hc : ∀ n, n < 16 → hexDigit n ≠ c) (bs : List UInt8) : c ∉ (hex bs).toList := by
  simp only [hex, String.toList_ofList, List.mem_flatMap, List.mem_cons, List.not_mem_nil, or_false, not_exists, not_and]
  intro x _ hv
  have := x.toNat_lt
  exact hv.elim (fun h => hc _ (by omega) h.symm) fun h => hc _ (by omega) h.symm

end MageModel.Invoke.Sha1

namespace MageModel.Invoke.Cache

theorem sortStrings_eq_sortBy (l : List String) : sortStrings l = Parse.sortBy id l := rfl

theorem sortStrings_eq_of_perm (l l' : List String) (h : l.Perm l') : sortStrings l = sortStrings l' := by
  rw [sortStrings_eq_sortBy, sortStrings_eq_sortBy]
  exact Parse.sortBy_eq_of_perm id h fun _ _ _ _ e => e

theorem sortStrings_perm (l : List String) : (sortStrings l).Perm l := Parse.sortBy_perm id l

theorem perm_of_map_perm {B C : Type} [DecidableEq B] {f : B → C} {U : B → Prop}
    (hinj : ∀ a b, U a → U b → f a = f b → a = b) {l l' : List B} (hl : ∀ b ∈ l, U b) (hl' : ∀ b ∈ l', U b)
    (h : (l.map f).Perm (l'.map f)) : l.Perm l' := by
  induction l generalizing l' with
  | nil => rw [List.map_eq_nil_iff.mp h.symm.eq_nil]
  | cons a as ih =>
    obtain ⟨ha, has⟩ := List.forall_mem_cons.mp hl
    obtain ⟨b, hb, hfb⟩ := List.mem_map.mp (h.mem_iff.mp (List.mem_cons_self ..))
    obtain rfl := hinj b a (hl' b hb) ha hfb
    have hp : l'.Perm (b :: l'.erase b) := List.perm_cons_erase hb
    exact ((ih has (fun x hx => hl' x (List.mem_of_mem_erase hx)) (h.trans (hp.map f)).cons_inv).cons b).trans hp.symm

theorem key_ne_block {k0 : Char} {x : List Char} (hx : x ≠ []) (hk : k0 ∉ x) (t r : List Char) : k0 :: t ≠ x ++ r := by
  cases x with
  | nil => exact absurd rfl hx
  | cons c cs => intro h; cases h; exact hk (List.mem_cons_self ..)

theorem blocks_key_decode {n : Nat} (hn : 0 < n) {k0 : Char} {L L' : List (List Char)} {t t' : List Char}
    (hL : ∀ x ∈ L, x.length = n ∧ k0 ∉ x) (hL' : ∀ x ∈ L', x.length = n ∧ k0 ∉ x)
    (h : L.flatten ++ k0 :: t = L'.flatten ++ k0 :: t') : L = L' ∧ t = t' := by
  induction L generalizing L' with
  | nil =>
    cases L' with
    | nil => exact ⟨rfl, List.tail_eq_of_cons_eq h⟩
    | cons y ys =>
      simp only [List.flatten_cons, List.append_assoc] at h
      obtain ⟨hy, _⟩ := List.forall_mem_cons.mp hL'
      exact absurd h (key_ne_block (List.ne_nil_of_length_pos (hy.1 ▸ hn)) hy.2 _ _)
  | cons x xs ih =>
    obtain ⟨hx, hxs⟩ := List.forall_mem_cons.mp hL
    simp only [List.flatten_cons, List.append_assoc] at h
    cases L' with
    | nil => exact absurd h.symm (key_ne_block (List.ne_nil_of_length_pos (hx.1 ▸ hn)) hx.2 _ _)
    | cons y ys =>
      obtain ⟨hy, hys⟩ := List.forall_mem_cons.mp hL'
      simp only [List.flatten_cons, List.append_assoc] at h
      obtain ⟨e, h'⟩ := List.append_inj h (hx.1.trans hy.1.symm)
      obtain ⟨r1, r2⟩ := ih hxs hys h'
      exact ⟨e ▸ r1 ▸ rfl, r2⟩

end MageModel.Invoke.Cache
