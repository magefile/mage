/-
SHA-1 (FIPS 180-4) over byte arrays, executable, so that the oracle computes the *real* cache file names that
`mage.ExeName` produces.  Nothing is proved about SHA-1 beyond the shape of its output (20 bytes, hence 40 hex
digits): collision-freeness is a hypothesis wherever it is needed.
-/
namespace MageModel.Invoke.Sha1

def rotl (x : UInt32) (n : UInt32) : UInt32 := (x <<< n) ||| (x >>> (32 - n))

/-- message padding: 0x80, zeros up to 56 mod 64, the bit length as 64-bit big-endian -/
def pad (msg : ByteArray) : ByteArray := Id.run do
  let bitLen : UInt64 := msg.size.toUInt64 * 8
  let mut out := msg.push 0x80
  while out.size % 64 != 56 do
    out := out.push 0
  for i in [0:8] do
    out := out.push ((bitLen >>> (UInt64.ofNat (8 * (7 - i)))).toUInt8)
  return out

def be32 (b : ByteArray) (i : Nat) : UInt32 :=
  (b.get! i).toUInt32 <<< 24 ||| (b.get! (i+1)).toUInt32 <<< 16 ||| (b.get! (i+2)).toUInt32 <<< 8 ||| (b.get! (i+3)).toUInt32

structure St where
  h0 : UInt32
  h1 : UInt32
  h2 : UInt32
  h3 : UInt32
  h4 : UInt32

def init : St := ⟨0x67452301, 0xEFCDAB89, 0x98BADCFE, 0x10325476, 0xC3D2E1F0⟩

def chunk (s : St) (b : ByteArray) (off : Nat) : St := Id.run do
  let mut w : Array UInt32 := Array.mkEmpty 80
  for i in [0:16] do
    w := w.push (be32 b (off + 4 * i))
  for i in [16:80] do
    w := w.push (rotl (w[i-3]! ^^^ w[i-8]! ^^^ w[i-14]! ^^^ w[i-16]!) 1)
  let mut a := s.h0
  let mut bb := s.h1
  let mut c := s.h2
  let mut d := s.h3
  let mut e := s.h4
  for i in [0:80] do
    let (f, k) : UInt32 × UInt32 :=
      if i < 20 then ((bb &&& c) ||| ((~~~ bb) &&& d), 0x5A827999)
      else if i < 40 then (bb ^^^ c ^^^ d, 0x6ED9EBA1)
      else if i < 60 then ((bb &&& c) ||| (bb &&& d) ||| (c &&& d), 0x8F1BBCDC)
      else (bb ^^^ c ^^^ d, 0xCA62C1D6)
    let temp := rotl a 5 + f + e + k + w[i]!
    e := d
    d := c
    c := rotl bb 30
    bb := a
    a := temp
  return ⟨s.h0 + a, s.h1 + bb, s.h2 + c, s.h3 + d, s.h4 + e⟩

def bytes32 (x : UInt32) : List UInt8 := [(x >>> 24).toUInt8, (x >>> 16).toUInt8, (x >>> 8).toUInt8, x.toUInt8]

def finalState (msg : ByteArray) : St := Id.run do
  let p := pad msg
  let mut s := init
  for i in [0:p.size / 64] do
    s := chunk s p (64 * i)
  return s

def digestOf (s : St) : List UInt8 := bytes32 s.h0 ++ bytes32 s.h1 ++ bytes32 s.h2 ++ bytes32 s.h3 ++ bytes32 s.h4

/-- the digest: 20 bytes -/
def sum (msg : ByteArray) : List UInt8 := digestOf (finalState msg)

def hexDigit (n : Nat) : Char := if n < 10 then Char.ofNat (48 + n) else Char.ofNat (87 + n)
def hex (bs : List UInt8) : String := String.ofList (bs.flatMap fun b => [hexDigit (b.toNat / 16), hexDigit (b.toNat % 16)])

/-- `fmt.Sprintf("%x", sha1.Sum(b))` -/
def hexSum (msg : ByteArray) : String := hex (sum msg)

end MageModel.Invoke.Sha1
