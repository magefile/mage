import MageModel.Invoke.Steps
/-!
What is proved about `invoke` goes through two things: `Touches`, the frame of what an invocation may change in the world,
and `invoke_eq`, the normal form of `invoke` under the guards `earlyFault` and `reuses`, on which the eliminators rest.
-/
namespace MageModel.Invoke

@[simp] theorem World.setMain_main_same {Src} (w : World Src) d m : (w.setMain d m).main d = m := by simp [World.setMain]
@[simp] theorem World.setMain_main_other {Src} (w : World Src) d d' m (h : d' ≠ d) : (w.setMain d m).main d' = w.main d' := by
  simp [World.setMain, h]
@[simp] theorem World.setMain_cache {Src} (w : World Src) d m : (w.setMain d m).cache = w.cache := rfl
@[simp] theorem World.setExe_main {Src} (w : World Src) p s : (w.setExe p s).main = w.main := rfl
@[simp] theorem World.setExe_cache_same {Src} (w : World Src) p s : (w.setExe p s).cache p = some s := by simp [World.setExe]
@[simp] theorem World.setExe_cache_other {Src} (w : World Src) p p' s (h : p' ≠ p) : (w.setExe p s).cache p' = w.cache p' := by
  simp [World.setExe, h]

variable {Src : Type}

@[simp] theorem cleanup_cache (r : Run Src) (w : World Src) : (cleanup r w).cache = w.cache := by
  unfold cleanup; split <;> rfl
@[simp] theorem deferred_cache (cfg : Cfg) (r : Run Src) (e : Bool) (w : World Src) : (deferred cfg r e w).cache = w.cache := by
  unfold deferred; split <;> simp
theorem built_cache (cfg : Cfg) (name : Src → Nat) (r : Run Src) (w : World Src) :
    (built cfg name r w).cache = (w.setExe (exePath name r) r.src).cache := by
  unfold built; split
  · rw [cleanup_cache]; rfl
  · rfl
@[simp] theorem built_cache_exe (cfg : Cfg) (name : Src → Nat) (r : Run Src) (w : World Src) :
    (built cfg name r w).cache (exePath name r) = some r.src := by
  rw [built_cache]; exact w.setExe_cache_same ..
theorem built_cache_other (cfg : Cfg) (name : Src → Nat) (r : Run Src) (w : World Src) (p : Nat) (h : p ≠ exePath name r) :
    (built cfg name r w).cache p = w.cache p := by
  rw [built_cache]; exact w.setExe_cache_other _ _ _ h

theorem deferred_main_self {cfg : Cfg} (hd : cfg.deferBeforeGenerate = true) {r : Run Src} (hk : r.keep = false) (e : Bool)
    (w : World Src) : (deferred cfg r e w).main r.dir = .absent := by
  simp [deferred, hd, cleanup, hk]

theorem deferred_keep {r : Run Src} (hk : r.keep = true) (cfg : Cfg) (e : Bool) (w : World Src) : deferred cfg r e w = w := by
  simp [deferred, cleanup, hk]

theorem built_keep {r : Run Src} (hk : r.keep = true) (cfg : Cfg) (name : Src → Nat) (w : World Src) :
    built cfg name r w = (w.setMain r.dir .full).setExe (exePath name r) r.src := by
  simp [built, cleanup, hk]

/-- every executable in the cache directory sits at the name computed from the sources it was built from -/
def CacheSound (name : Src → Nat) (w : World Src) : Prop := ∀ p s, w.cache p = some s → p = name s

/-- all an invocation in directory `d` with executable path `p` for sources `s` may change: `main d`, and `cache p` to `some s` -/
def Touches (d p : Nat) (s : Src) (w w' : World Src) : Prop :=
  (∀ d', d' ≠ d → w'.main d' = w.main d') ∧ (∀ p', w'.cache p' = w.cache p' ∨ (p' = p ∧ w'.cache p' = some s))

namespace Touches
variable {d p : Nat} {s : Src} {w w' w'' : World Src}

theorem refl : Touches d p s w w := ⟨fun _ _ => rfl, fun _ => .inl rfl⟩

theorem trans (h : Touches d p s w w') (h' : Touches d p s w' w'') : Touches d p s w w'' :=
  ⟨fun d' hd => (h'.1 d' hd).trans (h.1 d' hd), fun p' => (h'.2 p').elim (fun e => e ▸ h.2 p') .inr⟩

theorem setMain (m : MainState) : Touches d p s w (w.setMain d m) :=
  ⟨fun _ hd => w.setMain_main_other _ _ m hd, fun _ => .inl rfl⟩

theorem setExe : Touches d p s w (w.setExe p s) :=
  ⟨fun _ _ => rfl, fun p' => if h : p' = p then .inr ⟨h, h ▸ w.setExe_cache_same p s⟩ else .inl (w.setExe_cache_other _ _ s h)⟩

theorem of_cleanup (r : Run Src) : Touches r.dir p s w (cleanup r w) := by
  unfold cleanup; split
  · exact refl
  · exact setMain _

theorem of_deferred (cfg : Cfg) (r : Run Src) (e : Bool) : Touches r.dir p s w (deferred cfg r e w) := by
  unfold deferred; split
  · exact refl
  · exact of_cleanup r

theorem of_built (cfg : Cfg) (name : Src → Nat) (r : Run Src) : Touches r.dir (exePath name r) r.src w (built cfg name r w) := by
  unfold built; split
  · exact ((setMain _).trans setExe).trans (of_cleanup r)
  · exact (setMain _).trans setExe

end Touches

-- With `-compile p` the executable goes to the caller's path `p`, not to `name s`: such a run does not keep `CacheSound`,
-- which is why the theorems about it assume `r.compileOut = none`.
theorem CacheSound.touches {name : Src → Nat} {w w' : World Src} {d : Nat} {s : Src} (h : CacheSound name w)
    (ht : Touches d (name s) s w w') : CacheSound name w' := by
  intro p s' hp
  rcases ht.2 p with e | ⟨e, e'⟩
  · exact h p s' (e ▸ hp)
  · cases e'.symm.trans hp; exact e

theorem CacheSound.setExe {name : Src → Nat} {w : World Src} (h : CacheSound name w) (s : Src) :
    CacheSound name (w.setExe (name s) s) :=
  h.touches (d := 0) .setExe

theorem CacheSound.setMain {name : Src → Nat} {w : World Src} (h : CacheSound name w) (d : Nat) (m : MainState) :
    CacheSound name (w.setMain d m) :=
  h

/-- any subset `rm` of the cache entries disappears: `mage -clean`, also one that fails midway -/
theorem CacheSound.clean {name : Src → Nat} {w : World Src} (h : CacheSound name w) (rm : Nat → Bool) :
    CacheSound name { w with cache := fun p => if rm p then none else w.cache p } := by
  intro p s hp
  dsimp only at hp
  split at hp
  · cases hp
  · exact h p s hp

theorem CacheSound.lookup {name : Src → Nat} (hinj : ∀ a b, name a = name b → a = b) {w : World Src} (h : CacheSound name w)
    {s s' : Src} (hp : w.cache (name s) = some s') : s' = s :=
  hinj _ _ (h _ _ hp).symm

theorem osStatus_id {c : Int} (h1 : 0 ≤ c) (h2 : c ≤ 255) : osStatus c = c := by
  unfold osStatus; omega

section
variable (cfg : Cfg) (name : Src → Nat) (runBin : Src → Int) (r : Run Src) (F : Faults) (w : World Src)

@[simp] theorem runCompiled_world (exe : Nat) : (runCompiled runBin F w exe).world = w := by
  unfold runCompiled; split
  · rfl
  · split <;> rfl

@[simp] theorem runCompiled_built (exe : Nat) : (runCompiled runBin F w exe).built = false := by
  unfold runCompiled; split
  · rfl
  · split <;> rfl

theorem runCompiled_status_space (exe : Nat) :
    (runCompiled runBin F w exe).status = 1 ∨ ∃ s, (runCompiled runBin F w exe).status = osStatus (runBin s) := by
  unfold runCompiled; split
  · exact .inl rfl
  · split
    · exact .inl rfl
    · exact .inr ⟨_, rfl⟩

/-- a step before the look at the cache fails: the listing, the empty listing, the hash, `go env` -/
def earlyFault : Bool :=
  F.list || (!cfg.listSkipsMain && w.main r.dir == .headless) || F.noFiles || (r.compileOut.isNone && F.exeName) ||
    (!r.hashFast && F.goEnv)

/-- the existing executable is run without compiling: hash mode, it is there, no `-f` -/
def reuses : Bool := !rebuildAlways r && (w.cache (exePath name r)).isSome && !r.force

theorem invoke_eq : invoke cfg name runBin r F w =
    if earlyFault cfg r F w then { world := w, status := 1 }
    else if reuses name r w then runCompiled runBin F w (exePath name r)
    else if F.parse then { world := w, status := 1 }
    else buildAndRun cfg name runBin r F w := by
  have chain : ∀ (a b c d : Bool) (x y : Res Src),
      (if a then x else if b then x else if c then x else if d then x else y) = if a || b || c || d then x else y := by
    intro a b c d x y
    cases a <;> cases b <;> cases c <;> cases d <;> rfl
  unfold invoke earlyFault reuses   -- the four early exits are the first four `if`s, in this order
  exact chain ..

end

section
variable {cfg : Cfg} {name : Src → Nat} {runBin : Src → Int} {r : Run Src} {F : Faults} {w : World Src} {exe : Nat} {s : Src}

theorem runCompiled_ran (h : (runCompiled runBin F w exe).ran = some s) : w.cache exe = some s := by
  unfold runCompiled at h
  split at h
  · cases h
  · split at h
    · cases h
    · rename_i hs _; cases h; exact hs

theorem runCompiled_hit (h : w.cache exe = some s) (hF : F.start = false) :
    runCompiled runBin F w exe = { world := w, status := osStatus (runBin s), ran := some s } := by
  simp [runCompiled, h, hF]

theorem exePath_eq_name (hc : r.compileOut = none) : exePath name r = name r.src := by
  simp [exePath, hc]

theorem not_reuses (h : rebuildAlways r = true ∨ r.force = true) : ¬reuses name r w = true := by
  rcases h with a | a <;> simp [reuses, a]

theorem reuses_noCompile (hc : r.compileOut = none) :
    reuses name r w = (!rebuildAlways r && (w.cache (name r.src)).isSome && !r.force) := by
  rw [reuses, exePath_eq_name hc]

theorem earlyFault_skipsMain (hl : cfg.listSkipsMain = true) :
    earlyFault cfg r F w = (F.list || F.noFiles || (r.compileOut.isNone && F.exeName) || (!r.hashFast && F.goEnv)) := by
  simp [earlyFault, hl]

theorem invoke_cases {P : Res Src → Prop} (fail : P { world := w, status := 1 })
    (reuse : P (runCompiled runBin F w (exePath name r))) (build : P (buildAndRun cfg name runBin r F w)) :
    P (invoke cfg name runBin r F w) := by
  rw [invoke_eq]   -- `split` on the chain of `if`s costs fifty times as much
  exact iteInduction (fun _ => fail) fun _ => iteInduction (fun _ => reuse) fun _ => iteInduction (fun _ => fail) fun _ => build

theorem buildAndRun_failed (h : F.gen ≠ .none ∨ F.compile = true) : (buildAndRun cfg name runBin r F w).status = 1 := by
  unfold buildAndRun
  cases hg : F.gen with
  | none => exact h.elim (absurd hg) fun hc => by simp only [hc, if_true]
  | _ => rfl

/-- Generation or compilation fails, having written at most the main file; or the executable is installed, and then
`-compile` stops there, or the executable cannot be started, or it runs. -/
theorem buildAndRun_cases {P : Res Src → Prop}
    (failed : ∀ e w', (w' = w ∨ ∃ m, w' = w.setMain r.dir m) → P { world := deferred cfg r e w', status := 1 })
    (compiled : r.compileOut.isSome → P { world := deferred cfg r false (built cfg name r w), status := 0, built := true })
    (startFails : r.compileOut.isSome = false → F.start = true →
      P { world := deferred cfg r false (built cfg name r w), status := 1, built := true })
    (runs : r.compileOut.isSome = false → F.start = false →
      P { world := deferred cfg r false (built cfg name r w), status := osStatus (runBin r.src), ran := some r.src,
          built := true }) :
    P (buildAndRun cfg name runBin r F w) := by
  unfold buildAndRun
  cases F.gen with
  | create => exact failed _ _ (.inl rfl)
  | write | close | chtimes => exact failed _ _ (.inr ⟨_, rfl⟩)
  | none =>
    refine iteInduction (fun _ => failed _ _ (.inr ⟨_, rfl⟩)) fun _ => iteInduction compiled fun ho => ?_
    -- `go build` has installed the executable, so `runCompiled` finds it and only the start can fail
    have installed : (built cfg name r w).cache (exePath name r) = some r.src := built_cache_exe ..
    cases hs : F.start
    · simpa [runCompiled, installed, hs] using runs (Bool.eq_false_iff.mpr ho) hs
    · simpa [runCompiled, installed, hs] using startFails (Bool.eq_false_iff.mpr ho) hs

end

section
variable (cfg : Cfg) (name : Src → Nat) (runBin : Src → Int) (r : Run Src) (F : Faults) (w : World Src)

theorem buildAndRun_touches : Touches r.dir (exePath name r) r.src w (buildAndRun cfg name runBin r F w).world :=
  have done : Touches r.dir (exePath name r) r.src w (deferred cfg r false (built cfg name r w)) :=
    .trans (.of_built cfg name r) (.of_deferred cfg r false)
  buildAndRun_cases (P := fun res => Touches _ _ _ w res.world)
    (failed := fun e _ h => .trans (h.elim (· ▸ .refl) fun ⟨m, hm⟩ => hm ▸ .setMain m) (.of_deferred cfg r e))
    (compiled := fun _ => done) (startFails := fun _ _ => done) (runs := fun _ _ => done)

theorem invoke_touches : Touches r.dir (exePath name r) r.src w (invoke cfg name runBin r F w).world :=
  invoke_cases (P := fun res => Touches _ _ _ w res.world) .refl
    ((runCompiled_world runBin F w _).symm ▸ .refl) (buildAndRun_touches cfg name runBin r F w)

theorem buildAndRun_none : buildAndRun cfg name runBin r Faults.none w =
    if r.compileOut.isSome then { world := deferred cfg r false (built cfg name r w), status := 0, built := true }
    else { world := deferred cfg r false (built cfg name r w), status := osStatus (runBin r.src), ran := some r.src,
           built := true } := by
  simp [buildAndRun, Faults.none, runCompiled]

end

theorem invoke_none {cfg : Cfg} (hl : cfg.listSkipsMain = true) (name : Src → Nat) (runBin : Src → Int) (r : Run Src)
    (w : World Src) : invoke cfg name runBin r Faults.none w =
      if reuses name r w then runCompiled runBin Faults.none w (exePath name r)
      else buildAndRun cfg name runBin r Faults.none w := by
  rw [invoke_eq, earlyFault_skipsMain hl]
  simp [Faults.none]

theorem invoke_none_runs {name : Src → Nat} (hinj : ∀ a b, name a = name b → a = b) {runBin : Src → Int} {r : Run Src}
    {w : World Src} (hs : CacheSound name w) (hc : r.compileOut = none) :
    (invoke Cfg.fixed name runBin r Faults.none w).status = osStatus (runBin r.src) ∧
    (invoke Cfg.fixed name runBin r Faults.none w).ran = some r.src := by
  rw [invoke_none rfl, reuses_noCompile hc, exePath_eq_name hc]
  split
  · rename_i h
    simp only [Bool.and_eq_true, Option.isSome_iff_exists] at h
    obtain ⟨⟨_, s, hsome⟩, _⟩ := h
    rw [runCompiled_hit hsome rfl, hs.lookup hinj hsome]
    exact ⟨rfl, rfl⟩
  · simp [buildAndRun_none, hc]

/-- what of a result does not depend on the main files -/
def SameOutcome (a b : Res Src) : Prop :=
  a.status = b.status ∧ a.ran = b.ran ∧ a.built = b.built ∧ a.world.cache = b.world.cache

theorem SameOutcome.ite {c : Prop} [Decidable c] {a a' b b' : Res Src} (h : SameOutcome a b) (h' : SameOutcome a' b') :
    SameOutcome (if c then a else a') (if c then b else b') := by
  split <;> assumption

section
variable {cfg : Cfg} (name : Src → Nat) (runBin : Src → Int) (r : Run Src) (F : Faults) {w w' : World Src}
  (h : w.cache = w'.cache)
include h

theorem runCompiled_cache_only (exe : Nat) : SameOutcome (runCompiled runBin F w exe) (runCompiled runBin F w' exe) := by
  unfold runCompiled
  rw [h]
  cases w'.cache exe with
  | none => exact ⟨rfl, rfl, rfl, h⟩
  | some s => cases F.start <;> exact ⟨rfl, rfl, rfl, h⟩

theorem buildAndRun_cache_only :
    SameOutcome (buildAndRun cfg name runBin r F w) (buildAndRun cfg name runBin r F w') := by
  have hb : (built cfg name r w).cache = (built cfg name r w').cache := by
    rw [built_cache, built_cache]; simp only [World.setExe, h]
  have hr := runCompiled_cache_only runBin F hb (exePath name r)
  unfold buildAndRun
  cases F.gen
  case none =>
    exact .ite ⟨rfl, rfl, rfl, by simpa using h⟩ <| .ite ⟨rfl, rfl, rfl, by simpa using hb⟩ ⟨hr.1, hr.2.1, rfl, by simpa using hb⟩
  all_goals exact ⟨rfl, rfl, rfl, by simpa using h⟩

/-- with the main file hidden from the listing (D11) the world matters through its cache only -/
theorem invoke_cache_only (hl : cfg.listSkipsMain = true) :
    SameOutcome (invoke cfg name runBin r F w) (invoke cfg name runBin r F w') := by
  have fail : SameOutcome { world := w, status := 1 } { world := w', status := 1 } := ⟨rfl, rfl, rfl, h⟩
  rw [invoke_eq, invoke_eq, earlyFault_skipsMain hl, earlyFault_skipsMain hl,
    show reuses name r w = reuses name r w' by simp only [reuses, h]]
  exact .ite fail <| .ite (runCompiled_cache_only runBin F h _) <| .ite fail <| buildAndRun_cache_only name runBin r F h
end

end MageModel.Invoke
