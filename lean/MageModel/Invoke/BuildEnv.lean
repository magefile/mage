import MageModel.Gen.Flags
/-
`internal.EnvWithGOOS` (internal/run.go): `os.Environ()` split into a Go map, GOOS and GOARCH overwritten with the
flag value or the host's, re-joined in map iteration order.  The iteration order is a parameter: the result is *any
permutation* of the map's entries.  `SplitEnv`'s error for an entry without `=` is left out: an `Env` is a list of pairs.
-/
namespace MageModel.Invoke.BuildEnv
open MageModel.Gen.Flags

/-- Go map assignment `m[k] = v` on an association list with unique keys -/
def setKey (m : Env) (k v : String) : Env :=
  if m.any (fun p => p.1 == k) then m.map (fun p => if p.1 == k then (k, v) else p) else m ++ [(k, v)]

/-- `internal.SplitEnv`: a later binding of a key overwrites an earlier one -/
def splitEnv (E : Env) : Env := E.foldl (fun m p => setKey m p.1 p.2) []

/-- the map `EnvWithGOOS` builds before `joinEnv` -/
def goosMap (hostOS hostArch goos goarch : String) (E : Env) : Env :=
  setKey (setKey (splitEnv E) "GOOS" (if goos = "" then hostOS else goos)) "GOARCH" (if goarch = "" then hostArch else goarch)

def keys (m : Env) : List String := m.map (·.1)

example : goosMap "linux" "amd64" "" "arm64" [("GOOS", "plan9"), ("A", "x=y"), ("GOOS", "windows")] =
    [("GOOS", "linux"), ("A", "x=y"), ("GOARCH", "arm64")] := by decide +kernel

end MageModel.Invoke.BuildEnv
