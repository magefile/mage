import MageModel.Invoke.Select
/-!
The selection looks at the extra build tags only through `contains`: that is what lets the two listings of a directory
(`-tags=mage` and `-tags=`) be compared tag by tag.
-/
namespace MageModel.Invoke.Select

theorem mem_listGo_iff (p : Plat) (tags : List String) (files : List File) (n : String) :
    n ∈ listGo p tags files ↔ ∃ f ∈ files, f.name = n ∧ sat p tags f = true := by
  simp only [listGo, List.mem_map, List.mem_filter]
  constructor
  · rintro ⟨f, ⟨hf, hs⟩, rfl⟩; exact ⟨f, hf, rfl, hs⟩
  · rintro ⟨f, hf, rfl, hs⟩; exact ⟨f, ⟨hf, hs⟩, rfl⟩

theorem exists_sat_iff {p : Plat} {files : List File} {f : File} (hf : f ∈ files)
    (huniq : ∀ g ∈ files, g.name = f.name → g = f) (tags : List String) :
    (∃ g ∈ files, g.name = f.name ∧ sat p tags g = true) ↔ sat p tags f = true :=
  ⟨fun ⟨g, hg, hn, hs⟩ => huniq g hg hn ▸ hs, fun h => ⟨f, hf, rfl, h⟩⟩

theorem tagTrue_congr (p : Plat) {tags tags' : List String} {t : String} (h : tags.contains t = tags'.contains t) :
    tagTrue p tags t = tagTrue p tags' t := by
  simp only [tagTrue, h]

theorem tagLists_agree {t : String} (h : t ≠ "mage" ∧ t ≠ "") : ["mage"].contains t = [""].contains t := by
  simp [h.1, h.2]

theorem known_not_mage_nor_empty {t : String} (h : knownOS.contains t = true ∨ knownArch.contains t = true) : t ≠ "mage" ∧ t ≠ "" := by
  constructor <;> (rintro rfl; revert h; decide +kernel)

theorem all_congr_mem {α} {l : List α} {f g : α → Bool} (h : ∀ t ∈ l, f t = g t) : l.all f = l.all g :=
  Bool.eq_iff_iff.mpr (by simp only [List.all_eq_true]; exact forall₂_congr fun t ht => by rw [h t ht])

theorem sat_congr {p : Plat} {tags tags' : List String} {f : File}
    (hn : ∀ t ∈ nameTags f.name, tags.contains t = tags'.contains t)
    (hc : ∀ e, f.constraint = some e → eval p tags e = eval p tags' e) :
    sat p tags f = sat p tags' f := by
  unfold sat
  rw [all_congr_mem fun t ht => tagTrue_congr p (hn t ht)]
  cases hf : f.constraint with
  | none => rfl
  | some e => simp only [hc e hf]

theorem tagTrue_mage {p : Plat} (tags : List String) (hp : p.os ≠ "mage" ∧ p.arch ≠ "mage") :
    tagTrue p tags "mage" = tags.contains "mage" := by
  have h3 : ¬ "mage" ∈ releaseTags p.releaseMinor := by
    simp only [releaseTags, List.mem_map, List.mem_range, not_exists, not_and]
    intro i _ h
    have : ("go1." ++ toString (i + 1)).toList.head? = "mage".toList.head? := by rw [h]
    simp at this   -- 'g' ≠ 'm'
  simp [tagTrue, Ne.symm hp.1, Ne.symm hp.2, h3]

end MageModel.Invoke.Select
