import MageModel.Invoke.BuildEnv
import MageModel.Assoc
/-!
The Go map is iterated in any order, so the environment is known up to a permutation only: `setKey` keeps the keys
distinct, and with distinct keys a lookup does not depend on the order.
-/
namespace MageModel.Invoke.BuildEnv
open MageModel.Gen.Flags

theorem keys_setKey (m : Env) (k v : String) :
    keys (setKey m k v) = if m.any (fun p => p.1 == k) then keys m else keys m ++ [k] := by
  unfold setKey keys
  split
  · rw [List.map_map]
    exact List.map_congr_left fun p _ => by
      show (if (p.1 == k) = true then (k, v) else p).1 = p.1
      split
      · exact (eq_of_beq ‹_›).symm
      · rfl
  · rw [List.map_append]; rfl

theorem setKey_nodup {m : Env} {k v : String} (h : (keys m).Nodup) : (keys (setKey m k v)).Nodup := by
  rw [keys_setKey]
  split
  · exact h
  · rename_i hk   -- `any` was false: the new key is not among the old ones
    rw [List.nodup_append]
    refine ⟨h, List.pairwise_singleton _ k, fun a ha b hb hab => hk ?_⟩
    obtain ⟨p, hp, rfl⟩ := List.mem_map.mp ha
    exact List.any_eq_true.mpr ⟨p, hp, by rw [hab, List.mem_singleton.mp hb]; exact beq_self_eq_true k⟩

theorem setKey_mem {m : Env} {k v : String} : (k, v) ∈ setKey m k v := by
  by_cases hk : m.any (fun p => p.1 == k) = true
  · simp only [setKey, hk, if_true, List.mem_map]
    simp only [List.any_eq_true] at hk
    obtain ⟨p, hp, hpk⟩ := hk
    exact ⟨p, hp, by simp [hpk]⟩
  · simp [setKey, hk]

theorem setKey_mem_other {m : Env} {k v k' v' : String} (hne : k' ≠ k) (h : (k', v') ∈ m) : (k', v') ∈ setKey m k v := by
  by_cases hk : m.any (fun p => p.1 == k) = true
  · simp only [setKey, hk, if_true, List.mem_map]
    exact ⟨(k', v'), h, by simp [hne]⟩
  · simp [setKey, hk, h]

theorem foldl_setKey_nodup (E : Env) {m : Env} (h : (keys m).Nodup) : (keys (E.foldl (fun m p => setKey m p.1 p.2) m)).Nodup := by
  induction E generalizing m with
  | nil => exact h
  | cons p rest ih => exact ih (setKey_nodup h)

theorem goosMap_nodup (ho ha goos goarch : String) (E : Env) : (keys (goosMap ho ha goos goarch E)).Nodup :=
  setKey_nodup (setKey_nodup (foldl_setKey_nodup E List.nodup_nil))

theorem getenv_of_mem {L : Env} {k v : String} (hn : (keys L).Nodup) (hm : (k, v) ∈ L) : getenv L k = v := by
  have hn' : (L.reverse.map (·.1)).Nodup := (((List.reverse_perm L).map _).nodup_iff).mpr hn
  rw [getenv, find?_key_of_nodup (·.1) hn' (List.mem_reverse.mpr hm)]   -- matches as `(·.1) (k, v)` is `k`

/-- **The platform the magefiles are selected and compiled for is the flag's or the host's — never the caller's
GOOS/GOARCH** — for every caller environment and every iteration order of the map. -/
theorem platform_is_flag_or_host (ho ha goos goarch : String) (E L : Env) (hp : L.Perm (goosMap ho ha goos goarch E)) :
    getenv L "GOOS" = (if goos = "" then ho else goos) ∧ getenv L "GOARCH" = (if goarch = "" then ha else goarch) := by
  have hn : (keys L).Nodup := (List.Perm.nodup_iff (List.Perm.map _ hp)).mpr (goosMap_nodup ho ha goos goarch E)
  have hm {k v} (h : (k, v) ∈ goosMap ho ha goos goarch E) : getenv L k = v :=
    getenv_of_mem hn ((List.Perm.mem_iff hp).mpr h)
  exact ⟨hm (setKey_mem_other (by decide) setKey_mem), hm setKey_mem⟩

/-- every other variable keeps the caller's (last) value -/
theorem setKey_getenv_other (m : Env) (k v k' : String) (hne : k' ≠ k) (hn : (keys m).Nodup) (v' : String)
    (h : (k', v') ∈ m) : getenv (setKey m k v) k' = v' :=
  getenv_of_mem (setKey_nodup hn) (setKey_mem_other hne h)

end MageModel.Invoke.BuildEnv
