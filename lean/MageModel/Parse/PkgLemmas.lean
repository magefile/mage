import MageModel.Parse.Pkg
/-!
Lemmas about definitions of `Parse/Pkg.lean`, in terms of `List.Perm` and `List.Nodup`: a sort forgets the order in which
its entries were enumerated, and the duplicate checks accept exactly the name lists without duplicates.
-/
namespace MageModel.Parse

theorem mergeSort_eq_of_perm {α} (le : α → α → Bool) (trans : ∀ a b c, le a b → le b c → le a c)
    (total : ∀ a b, le a b || le b a) {l l' : List α} (antisymm : ∀ a b, a ∈ l → b ∈ l → le a b → le b a → a = b)
    (h : l.Perm l') : l.mergeSort le = l'.mergeSort le := by
  have hs := List.mergeSort_perm l le
  have hs' := List.mergeSort_perm l' le
  exact (hs.trans (h.trans hs'.symm)).eq_of_pairwise
    (fun a b ha hb => antisymm a b (hs.mem_iff.mp ha) (h.mem_iff.mpr (hs'.mem_iff.mp hb)))
    (List.pairwise_mergeSort trans total l) (List.pairwise_mergeSort trans total l')

theorem sortBy_perm {α} (key : α → String) (l : List α) : (sortBy key l).Perm l := List.mergeSort_perm l _

theorem mem_sortBy {α} (key : α → String) (l : List α) (x : α) : x ∈ sortBy key l ↔ x ∈ l :=
  (sortBy_perm key l).mem_iff

/-- Go's `<` on strings is a total order, so the keys only have to tell the entries apart -/
theorem sortBy_eq_of_perm {α} (key : α → String) {l l' : List α} (h : l.Perm l')
    (inj : ∀ a b, a ∈ l → b ∈ l → key a = key b → a = b) : sortBy key l = sortBy key l' :=
  mergeSort_eq_of_perm (fun a b => decide (key a ≤ key b))
    (fun _ _ _ h1 h2 => decide_eq_true (String.le_trans (of_decide_eq_true h1) (of_decide_eq_true h2)))
    (fun a b => by simpa using String.le_total (key a) (key b))
    (fun a b ha hb h1 h2 => inj a b ha hb (String.le_antisymm (of_decide_eq_true h1) (of_decide_eq_true h2))) h

theorem hasDup_eq_false_iff (l : List String) : hasDup l = false ↔ l.Nodup := by
  induction l with
  | nil => simp [hasDup]
  | cons x rest ih => simp [hasDup, ih]

-- An invariant of the loop, which pushes each key onto `seen`: hence `.reverse`, and `seen.Nodup` on the left.
theorem goAlias_ok_iff (seen : List String) (as : List (String × Function)) :
    (∃ r, checkDupes.goAlias seen as = .ok r) ∧ seen.Nodup ↔ ((as.map fun a => lower a.1).reverse ++ seen).Nodup := by
  induction as generalizing seen with
  | nil => simp [checkDupes.goAlias]
  | cons a rest ih =>
    rw [List.map_cons, List.reverse_cons, List.append_assoc, List.singleton_append, ← ih (lower a.1 :: seen),
      List.nodup_cons, checkDupes.goAlias]
    simp only [List.contains_iff_mem]
    split
    · simp [*]
    · simp [*]

theorem checkDupes_ok_iff_nodup_runnable (own : List Function) (imports : List Import) (aliases : List (String × Function)) :
    checkDupes own imports aliases = .ok () ↔
      ((aliases.map fun a => lower a.1).reverse ++ (own ++ imports.flatMap (·.funcs)).map fun f => lower f.targetName).Nodup := by
  rw [← goAlias_ok_iff, ← hasDup_eq_false_iff]
  unfold checkDupes
  dsimp only
  generalize (own ++ imports.flatMap (·.funcs)).map (fun f => lower f.targetName) = names
  cases checkDupes.goAlias names aliases with
  | error e => exact ⟨nofun, fun ⟨⟨_, h⟩, _⟩ => nomatch h⟩
  | ok seen =>
    cases hasDup names with
    | true => exact ⟨nofun, fun h => nomatch h.2⟩
    | false => exact ⟨fun _ => ⟨⟨_, rfl⟩, rfl⟩, fun _ => rfl⟩

theorem checkDupes_ok_iff (own : List Function) (imports : List Import) (aliases : List (String × Function)) :
    checkDupes own imports aliases = .ok () ↔
      (aliases.map fun a => lower a.1).Nodup ∧ ((own ++ imports.flatMap (·.funcs)).map fun f => lower f.targetName).Nodup ∧
      ∀ a ∈ aliases, ∀ f ∈ own ++ imports.flatMap (·.funcs), lower a.1 ≠ lower f.targetName := by
  rw [checkDupes_ok_iff_nodup_runnable, List.nodup_append, (List.reverse_perm _).nodup_iff]
  simp only [List.mem_reverse, List.mem_map, forall_exists_index, and_imp, forall_apply_eq_imp_iff₂]

theorem mem_namedStep (acc : List (String × String)) (pt : String × Tagged) (x : String × String) :
    x ∈ namedStep acc pt ↔ x ∈ acc ∨ pt = (x.1, .named x.2) := by
  obtain ⟨p, t⟩ := pt
  cases t with
  | named a =>
    obtain ⟨y, b⟩ := x
    simp only [namedStep, Prod.mk.injEq, Tagged.named.injEq]
    split
    · next h =>
      refine ⟨.inl, ?_⟩
      rintro (h' | ⟨rfl, rfl⟩)
      · exact h'
      · exact List.contains_iff_mem.mp h
    · rw [List.mem_append, List.mem_singleton, Prod.mk.injEq, @eq_comm _ y, @eq_comm _ b]
  | _ => simp [namedStep]

theorem mem_foldl_namedStep (tagged : List (String × Tagged)) (acc : List (String × String)) (x : String × String) :
    x ∈ tagged.foldl namedStep acc ↔ x ∈ acc ∨ (x.1, Tagged.named x.2) ∈ tagged := by
  induction tagged generalizing acc with
  | nil => simp
  | cons pt rest ih => rw [List.foldl_cons, ih, mem_namedStep, List.mem_cons, or_assoc, eq_comm]

end MageModel.Parse
