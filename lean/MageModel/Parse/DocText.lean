import MageModel.Parse.Pkg
/-
`ast.CommentGroup.Text` (src/go/ast/ast.go) transcribed: comment markers removed (one leading blank of a `//` comment
too), `//go:…`-style directives dropped, lines split, trailing white space stripped, leading blank lines removed, runs of
blank lines collapsed, a final newline added.  Go works on bytes; every character the function looks at is ASCII, so for
valid UTF-8 the character-level transcription agrees (bytes of multi-byte characters are never blanks, ':' or [a-z0-9]).
-/
namespace MageModel.Parse.DocText

def isWs (c : Char) : Bool := c == ' ' || c == '\t' || c == '\n' || c == '\r'

def stripTrailingWs (l : List Char) : List Char := (l.reverse.dropWhile isWs).reverse

def lowerAlnum (c : Char) : Bool := ('a' ≤ c && c ≤ 'z') || ('0' ≤ c && c ≤ '9')

/-- `isDirective` (the `//` already removed): `line `, `extern `, `export `, or `[a-z0-9]+:[a-z0-9]` -/
def isDirective (c : List Char) : Bool :=
  if "line ".toList.isPrefixOf c || "extern ".toList.isPrefixOf c || "export ".toList.isPrefixOf c then true
  else match c.findIdx? (· == ':') with
    | none => false
    | some k =>
      if k == 0 then false
      else match (c.drop (k + 1)).head? with
        | none => false
        | some a => (c.take k).all lowerAlnum && lowerAlnum a

/-- split at '\n' -/
def splitNl : List Char → List Char → List (List Char)
  | [], cur => [cur.reverse]
  | c :: cs, cur => if c == '\n' then cur.reverse :: splitNl cs [] else splitNl cs (c :: cur)

/-- the lines one comment contributes; `none` for a directive (skipped altogether) -/
def commentLines (c : List Char) : Option (List (List Char)) :=
  match c with
  | '/' :: '/' :: rest =>
    match rest with
    | [] => some [[]]
    | ' ' :: r => some ((splitNl r []).map stripTrailingWs)
    | _ => if isDirective rest then none else some ((splitNl rest []).map stripTrailingWs)
  | '/' :: '*' :: rest => some ((splitNl (rest.take (rest.length - 2)) []).map stripTrailingWs)
  | _ => some ((splitNl c []).map stripTrailingWs)

/-- leading blank lines removed, interior runs of blank lines collapsed to one (`kept` is reversed) -/
def squeeze : List (List Char) → List (List Char) → List (List Char)
  | [], kept => kept.reverse
  | l :: ls, kept =>
    if l ≠ [] || (match kept with | k :: _ => k ≠ [] | [] => false) then squeeze ls (l :: kept) else squeeze ls kept

/-- `(*ast.CommentGroup).Text` of the raw comments of a group -/
def groupText (comments : List String) : String :=
  let lines := (comments.filterMap fun c => commentLines c.toList).flatten
  let kept := squeeze lines []
  let final := match kept.getLast? with
    | some l => if l ≠ [] then kept ++ [[]] else kept
    | none => kept
  "\n".intercalate (final.map String.ofList)

/-- how the project generator writes a doc string: one `// ` comment per line -/
def renderDoc (doc : String) : List String := if doc = "" then [] else (doc.splitOn "\n").map ("// " ++ ·)

/-- the text of a generated doc string as go/ast hands it to mage -/
def docTextOf (doc : String) : String := groupText (renderDoc doc)

example : groupText ["// Build does x.  ", "//", "//", "// Second paragraph."] = "Build does x.\n\nSecond paragraph.\n" := by decide +kernel
example : groupText ["//go:generate foo", "// Real text"] = "Real text\n" := by decide +kernel
example : groupText ["/* block\n   comment */"] = " block\n   comment\n" := by decide +kernel
example : groupText ["//nolint:x", "//export Foo", "//line 3"] = "" := by decide +kernel

end MageModel.Parse.DocText
