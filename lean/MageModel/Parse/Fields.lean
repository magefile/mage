import MageModel.Parse.Pkg
/-
`strings.Fields(strings.ToLower(text[2:]))` as `parse.getImportPathFromCommentGroup` applies it to the last comment of
a group, transcribed: `unicode.IsSpace` (the Latin-1 spaces and the Unicode space separators),
`strings.Fields` (maximal runs of non-space characters), lower-casing by `Parse.lower` (ASCII and Latin-1, the
characters the generators use in comments near a tag).  Go slices bytes, the marker `//` or `/*` is two ASCII bytes.
-/
namespace MageModel.Parse

/-- `unicode.IsSpace` -/
def goIsSpace (c : Char) : Bool :=
  let n := c.toNat
  n == 0x09 || n == 0x0A || n == 0x0B || n == 0x0C || n == 0x0D || n == 0x20 || n == 0x85 || n == 0xA0 ||
  n == 0x1680 || (0x2000 ≤ n && n ≤ 0x200A) || n == 0x2028 || n == 0x2029 || n == 0x202F || n == 0x205F || n == 0x3000

/-- `strings.Fields` on characters: `cur` is the word being read, reversed -/
def goFieldsL : List Char → List Char → List (List Char)
  | [], [] => []
  | [], cur => [cur.reverse]
  | c :: cs, cur =>
    if goIsSpace c then (if cur.isEmpty then goFieldsL cs [] else cur.reverse :: goFieldsL cs [])
    else goFieldsL cs (c :: cur)

def goFields (s : String) : List String := (goFieldsL s.toList []).map String.ofList

/-- what the tag recognition sees of one comment -/
def commentFields (c : String) : List String := goFields (lower (String.ofList (c.toList.drop 2)))

end MageModel.Parse
