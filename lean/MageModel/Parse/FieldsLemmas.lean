import MageModel.Parse.Fields
import MageModel.Parse.DocText
/-!
Lemmas about the two transcriptions of comment text, `Parse/Fields.lean` and (one lemma) `Parse/DocText.lean`.  There are
three blank predicates, each what its Go function tests: `Parse.goIsSpace` is all of `unicode.IsSpace`, for
`strings.Fields`; `Parse.isGoSpace` (`Parse/Pkg.lean`) its Latin-1 part, for `strings.TrimSpace` on doc comments;
`DocText.isWs` the four ASCII blanks of go/ast's `stripTrailingWhitespace`.
-/
namespace MageModel.Parse

theorem commentFields_chars (c : String) :
    commentFields c = (goFieldsL ((c.toList.drop 2).map goToLower) []).map String.ofList := by
  rw [commentFields, goFields, lower, String.toList_ofList, String.toList_ofList]

theorem goFieldsL_spaces (ws : List Char) (h : ∀ c ∈ ws, goIsSpace c = true) (rest : List Char) :
    goFieldsL (ws ++ rest) [] = goFieldsL rest [] := by
  induction ws with
  | nil => rfl
  | cons w ws ih =>
    rw [List.forall_mem_cons] at h
    simp only [List.cons_append, goFieldsL, h.1, if_true, List.isEmpty_nil]
    exact ih h.2

theorem goFieldsL_word (w : List Char) (h : ∀ c ∈ w, goIsSpace c = false) (cur rest : List Char) :
    goFieldsL (w ++ rest) cur = goFieldsL rest (w.reverse ++ cur) := by
  induction w generalizing cur with
  | nil => rfl
  | cons c w ih =>
    rw [List.forall_mem_cons] at h
    simp only [List.cons_append, goFieldsL, h.1, Bool.false_eq_true, if_false, ih h.2, List.reverse_cons, List.append_assoc,
      List.cons_append, List.nil_append]

/-- a word between blanks is one field: leading blanks vanish, the word ends at the first blank or at the end -/
theorem goFieldsL_blank_word (ws w rest : List Char) (hws : ∀ c ∈ ws, goIsSpace c = true)
    (hw : ∀ c ∈ w, goIsSpace c = false) (hne : w ≠ []) :
    goFieldsL (ws ++ w) [] = [w] ∧
    ∀ s, goIsSpace s = true → goFieldsL (ws ++ w ++ s :: rest) [] = w :: goFieldsL rest [] := by
  have hr : w.reverse ≠ [] := mt List.reverse_eq_nil_iff.mp hne
  constructor
  · -- `w` as `w ++ []` for `goFieldsL_word`; the equation of `goFieldsL [] cur` asks for `cur ≠ []`
    rw [goFieldsL_spaces ws hws, ← List.append_nil w, goFieldsL_word w hw, List.append_nil, List.append_nil, goFieldsL,
      List.reverse_reverse]
    exact hr
  · intro s hs
    rw [List.append_assoc, goFieldsL_spaces ws hws, goFieldsL_word w hw, List.append_nil, goFieldsL, if_pos hs,
      if_neg (by simpa using hr), List.reverse_reverse]

theorem goFieldsL_one (ws w ws' : List Char) (hws : ∀ c ∈ ws, goIsSpace c = true)
    (hw : ∀ c ∈ w, goIsSpace c = false) (hne : w ≠ []) (hws' : ∀ c ∈ ws', goIsSpace c = true) :
    goFieldsL (ws ++ w ++ ws') [] = [w] := by
  cases ws' with
  | nil => simpa using (goFieldsL_blank_word ws w [] hws hw hne).1
  | cons s rest =>
    rw [(goFieldsL_blank_word ws w rest hws hw hne).2 s (hws' s (by simp)), ← List.append_nil rest,
      goFieldsL_spaces rest (fun c hc => hws' c (by simp [hc]))]
    rfl

theorem goFieldsL_two (ws w s : List Char) (b : Char) (w2 ws' : List Char) (hws : ∀ c ∈ ws, goIsSpace c = true)
    (hw : ∀ c ∈ w, goIsSpace c = false) (hne : w ≠ []) (hb : goIsSpace b = true) (hs : ∀ c ∈ s, goIsSpace c = true)
    (hw2 : ∀ c ∈ w2, goIsSpace c = false) (hne2 : w2 ≠ []) (hws' : ∀ c ∈ ws', goIsSpace c = true) :
    goFieldsL (ws ++ w ++ b :: (s ++ w2 ++ ws')) [] = [w, w2] := by
  rw [(goFieldsL_blank_word ws w _ hws hw hne).2 b hb, goFieldsL_one s w2 ws' hs hw2 hne2 hws']

end MageModel.Parse

namespace MageModel.Parse.DocText

theorem groupText_nil : groupText [] = "" := by decide

end MageModel.Parse.DocText
