import MageModel.Sh.Exec
import MageModel.Assoc
/-! The child's environment keeps the last binding of a key (`lastFrom`): that is `List.lookup` in the reversed list,
and with unique keys in the list itself. -/
namespace MageModel.Sh

/-- The model gives `fatalErr` the same status under both functions (see the comment at `shExitStatus`). -/
theorem mgExitStatus_eq_sh : mgExitStatus = shExitStatus := rfl

theorem trim_newline (s : List Char) : trimOne (s ++ ['\n']) = s := by
  simp [trimOne]

theorem lastFrom_cons (k : String) (acc : Option String) (kv : String × String) (rest : List (String × String)) :
    lastFrom k acc (kv :: rest) = lastFrom k (if kv.1 == k then some kv.2 else acc) rest := rfl

theorem lastFrom_eq_lookup_reverse (k : String) (acc : Option String) (l : List (String × String)) :
    lastFrom k acc l = (l.reverse.lookup k).or acc := by
  induction l generalizing acc with
  | nil => rfl
  | cons kv rest ih =>
    rw [lastFrom_cons, ih, List.reverse_cons, List.lookup_append, Option.or_assoc]
    refine congrArg _ ?_
    obtain ⟨k', v'⟩ := kv
    rw [List.lookup_cons, List.lookup_nil]
    by_cases hk : k' = k
    · subst hk; simp
    · simp [hk, beq_false_of_ne (Ne.symm hk)]

theorem childGetenv_append (k : String) (E m : List (String × String)) :
    childGetenv (E ++ m) k = (childGetenv m k).or (childGetenv E k) := by
  simp only [childGetenv, lastFrom_eq_lookup_reverse, Option.or_none, List.reverse_append, List.lookup_append]

/-- with unique keys (a Go map; a well-formed environ) first and last binding coincide -/
theorem lastFrom_eq_lookup {k : String} {l : List (String × String)} (hu : (l.map Prod.fst).Nodup) :
    lastFrom k none l = l.lookup k := by
  rw [lastFrom_eq_lookup_reverse, Option.or_none]
  exact perm_lookup hu (List.reverse_perm l)

theorem childGetenv_childEnv {E m : List (String × String)} {k : String}
    (hE : (E.map Prod.fst).Nodup) (hm : (m.map Prod.fst).Nodup) :
    childGetenv (childEnv E m) k = (m.lookup k).or (E.lookup k) := by
  rw [childEnv, childGetenv_append, childGetenv, childGetenv, lastFrom_eq_lookup hm, lastFrom_eq_lookup hE]

end MageModel.Sh
