import MageModel.Sh.Slices
/-! The heap of `Sh/Slices.lean` cell by cell: which cells `writeList`, `appendS` and `Exec`'s expansion loop change,
and what a slice reads afterwards. -/
namespace MageModel.Sh

@[simp] theorem Heap.get_set (h : Heap) (a i : Nat) (v : String) (a' i' : Nat) :
    (h.set a i v).get a' i' = if a' = a ∧ i' = i then v else h.get a' i' := rfl
@[simp] theorem Heap.size_set (h : Heap) (a i : Nat) (v : String) : (h.set a i v).size = h.size := rfl
@[simp] theorem Heap.get_alloc (h : Heap) (xs : List String) (sp a i : Nat) :
    (h.alloc xs sp).1.get a i = if a = h.size then xs.getD i "" else h.get a i := rfl
@[simp] theorem Heap.size_alloc (h : Heap) (xs : List String) (sp : Nat) : (h.alloc xs sp).1.size = h.size + 1 := rfl
@[simp] theorem Heap.alloc_slice (h : Heap) (xs : List String) (sp : Nat) :
    (h.alloc xs sp).2 = ⟨h.size, 0, xs.length, xs.length + sp⟩ := rfl

theorem Heap.read_congr {h h' : Heap} {s s' : Slice} (hl : s.len = s'.len)
    (hc : ∀ i, i < s.len → h.get s.arr (s.off + i) = h'.get s'.arr (s'.off + i)) : h.read s = h'.read s' := by
  unfold Heap.read
  rw [← hl]
  exact List.map_congr_left fun i hi => hc i (List.mem_range.mp hi)

theorem Heap.read_length (h : Heap) (s : Slice) : (h.read s).length = s.len := by simp [Heap.read]

theorem Heap.read_getD (h : Heap) (s : Slice) (i : Nat) (hi : i < s.len) :
    (h.read s).getD i "" = h.get s.arr (s.off + i) := by
  simp [Heap.read, List.getD, hi]

theorem Heap.read_getElem? (h : Heap) (s : Slice) (i : Nat) :
    (h.read s)[i]? = if i < s.len then some (h.get s.arr (s.off + i)) else none := by
  unfold Heap.read
  by_cases hi : i < s.len <;> simp [hi]

theorem Heap.map_read {β} (h : Heap) (s : Slice) (f : String → β) :
    (h.read s).map f = (List.range' 0 s.len).map fun k => f (h.get s.arr (s.off + k)) := by
  rw [Heap.read, List.map_map, List.range_eq_range']; rfl

theorem Heap.read_extend (h : Heap) (s : Slice) (n : Nat) :
    h.read { s with len := s.len + n } = h.read s ++ h.read ⟨s.arr, s.off + s.len, n, n⟩ := by
  simp only [Heap.read, List.range_add, List.map_append, List.map_map, Function.comp_def, Nat.add_assoc]

theorem Heap.read_alloc_new (h : Heap) (xs : List String) (sp : Nat) :
    (h.alloc xs sp).1.read (h.alloc xs sp).2 = xs := by
  apply List.ext_getElem?; intro k
  rw [Heap.read_getElem?]
  simp only [Heap.alloc_slice, Heap.get_alloc, if_pos, Nat.zero_add, List.getD_eq_getElem?_getD]
  split
  next hk => rw [List.getElem?_eq_getElem hk]; rfl
  next hk => rw [List.getElem?_eq_none (Nat.le_of_not_lt hk)]

theorem Heap.size_writeList (h : Heap) (a i : Nat) (xs : List String) : (h.writeList a i xs).size = h.size := by
  induction xs generalizing h i with
  | nil => rfl
  | cons x rest ih => rw [Heap.writeList, ih, Heap.size_set]

theorem Heap.get_writeList_of_not {h : Heap} {a i : Nat} {xs : List String} {a' i' : Nat}
    (hout : a' ≠ a ∨ i' < i ∨ i + xs.length ≤ i') : (h.writeList a i xs).get a' i' = h.get a' i' := by
  induction xs generalizing h i with
  | nil => rfl
  | cons x rest ih =>
    rw [List.length_cons] at hout
    rw [Heap.writeList, ih (by omega), Heap.get_set, if_neg (by omega)]

theorem Heap.get_writeList_add {h : Heap} {a i : Nat} {xs : List String} {k : Nat} (hk : k < xs.length) :
    (h.writeList a i xs).get a (i + k) = xs[k] := by
  induction xs generalizing h i k with
  | nil => cases hk
  | cons x rest ih =>
    rw [Heap.writeList]
    cases k with
    | zero => rw [Heap.get_writeList_of_not (by omega), Heap.get_set, if_pos ⟨rfl, rfl⟩]; rfl
    | succ k => rw [← Nat.add_assoc, Nat.add_right_comm, ih (Nat.lt_of_succ_lt_succ hk)]; rfl

theorem Heap.read_writeList {h : Heap} (s : Slice) {xs : List String} (hl : s.len = xs.length) :
    (h.writeList s.arr s.off xs).read s = xs := by
  apply List.ext_getElem?; intro k
  rw [Heap.read_getElem?, hl]
  split
  next hk => rw [Heap.get_writeList_add hk, List.getElem?_eq_getElem hk]
  next hk => rw [List.getElem?_eq_none (Nat.le_of_not_lt hk)]

theorem appendS_read (h : Heap) (s : Slice) (xs : List String) (sp : Nat) :
    (appendS h s xs sp).1.read (appendS h s xs sp).2 = h.read s ++ xs := by
  unfold appendS; split
  · show (h.writeList s.arr (s.off + s.len) xs).read { s with len := s.len + xs.length } = _
    rw [Heap.read_extend, Heap.read_writeList ⟨s.arr, s.off + s.len, xs.length, xs.length⟩ rfl]
    exact congrArg (· ++ xs) (Heap.read_congr rfl fun i hi => Heap.get_writeList_of_not (by omega))
  · exact Heap.read_alloc_new _ _ _

/-- `append` leaves every existing cell alone except the spare capacity behind `s`. -/
theorem appendS_get {h : Heap} {s : Slice} {xs : List String} {sp a i : Nat} (ha : a < h.size)
    (hout : a ≠ s.arr ∨ i < s.off + s.len) :
    (appendS h s xs sp).1.get a i = h.get a i := by
  unfold appendS; split
  · exact Heap.get_writeList_of_not (by omega)
  · rw [Heap.get_alloc, if_neg (Nat.ne_of_lt ha)]

theorem appendS_size (h : Heap) (s : Slice) (xs : List String) (sp : Nat) : h.size ≤ (appendS h s xs sp).1.size := by
  unfold appendS; split
  · rw [Heap.size_writeList]; exact Nat.le_refl _
  · exact Nat.le_succ _

theorem appendS_len (h : Heap) (s : Slice) (xs : List String) (sp : Nat) :
    (appendS h s xs sp).2.len = s.len + xs.length := by
  unfold appendS; split
  · rfl
  · simp [Heap.read_length]

theorem appendS_arr_lt {h : Heap} {s : Slice} {xs : List String} {sp : Nat} (hs : s.arr < h.size) :
    (appendS h s xs sp).2.arr < (appendS h s xs sp).1.size := by
  unfold appendS; split
  · rw [Heap.size_writeList]; exact hs
  · exact Nat.lt_succ_self _

/-- `Exec`'s loop is one bulk write of the expanded arguments, provided it never reads a cell it has already
written: the destination is another array (current source) or does not start before the source (in place). -/
theorem expandLoop_eq_writeList (env : String → String) {argv dst : Slice} (hsafe : argv.arr ≠ dst.arr ∨ dst.off ≤ argv.off)
    (n i : Nat) (h : Heap) :
    expandLoop env argv dst n i h = h.writeList dst.arr (dst.off + i)
      ((List.range' i n).map fun k => expand env (h.get argv.arr (argv.off + k))) := by
  induction n generalizing i h with
  | zero => rfl
  | succ n ih =>
    rw [expandLoop, ih, List.range'_succ, List.map_cons, Heap.writeList, Nat.add_assoc]
    -- not `congr 1`: it proves the same but costs ten times the rest of this proof
    refine congrArg _ (List.map_congr_left fun k hk => ?_)
    rw [Heap.get_set, if_neg]
    have := (List.mem_range'_1.mp hk).1
    omega

/-- Pinned variant (`dst = argv`): the loop overwrites the slice it reads from. -/
theorem expandLoop_inplace_get (env) (argv : Slice) (n i : Nat) (h : Heap) (a j : Nat) :
    (expandLoop env argv argv n i h).get a j =
      if a = argv.arr ∧ argv.off + i ≤ j ∧ j < argv.off + i + n
      then expand env (h.get argv.arr j) else h.get a j := by
  rw [expandLoop_eq_writeList env (.inr (Nat.le_refl _))]
  split
  next hc =>
    obtain ⟨rfl, h1, h2⟩ := hc
    obtain ⟨k, rfl⟩ := Nat.exists_eq_add_of_le h1
    rw [Heap.get_writeList_add (by rw [List.length_map, List.length_range']; omega), List.getElem_map,
      List.getElem_range', Nat.one_mul, Nat.add_assoc]
  next hc => exact Heap.get_writeList_of_not (by rw [List.length_map, List.length_range']; omega)

theorem execArgs_fixed (env : String → String) {h : Heap} {argv : Slice} (hv : argv.arr < h.size) :
    (execArgs Cfg.fixed env h argv).2 = (h.read argv).map (expand env) ∧
    (∀ a i, a < h.size → (execArgs Cfg.fixed env h argv).1.get a i = h.get a i) ∧
    h.size ≤ (execArgs Cfg.fixed env h argv).1.size := by
  have hne : argv.arr ≠ h.size := Nat.ne_of_lt hv
  -- `make([]string, len(args))` is the new array `h.size`; the loop reads the old array `argv.arr`
  simp only [execArgs, Cfg.fixed, if_true]
  rw [expandLoop_eq_writeList env (.inl hne)]
  simp only [Heap.alloc_slice, Heap.get_alloc, if_neg hne, Nat.add_zero, ← Heap.map_read]
  refine ⟨?child, fun a i ha => ?frame, ?size⟩
  case child => exact Heap.read_writeList ⟨h.size, 0, _, _⟩ (by simp [Heap.read_length])
  case frame =>
    rw [Heap.get_writeList_of_not (.inl (Nat.ne_of_lt ha)), Heap.get_alloc, if_neg (Nat.ne_of_lt ha)]
  case size => rw [Heap.size_writeList, Heap.size_alloc]; exact Nat.le_succ _

theorem closureCall_fixed (env : String → String) (h : Heap) (baked : Slice) (extra : List String) (sp1 sp2 : Nat) :
    closureCall Cfg.fixed env h baked extra sp1 sp2 =
      execArgs Cfg.fixed env (appendS (h.alloc (h.read baked) sp1).1 (h.alloc (h.read baked) sp1).2 extra sp2).1
        (appendS (h.alloc (h.read baked) sp1).1 (h.alloc (h.read baked) sp1).2 extra sp2).2 := by
  -- `rfl` proves it too, at forty times the cost: the `let` patterns have to be matched against a stuck `appendS`
  simp only [closureCall, Cfg.fixed, if_true]

end MageModel.Sh
