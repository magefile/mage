/-! Lists whose entries have pairwise different keys: a look-up by key finds the entry, at most one entry has a given key, and
for lists of pairs `List.lookup` is decided by membership alone, hence does not depend on the order of the entries. -/
namespace MageModel

theorem find?_key_of_nodup {α κ} [BEq κ] [LawfulBEq κ] (key : α → κ) {l : List α} (hnd : (l.map key).Nodup)
    {a : α} (ha : a ∈ l) : l.find? (fun x => key x == key a) = some a := by
  induction l with
  | nil => cases ha
  | cons x l ih =>
    rw [List.map_cons, List.nodup_cons] at hnd
    rcases List.mem_cons.mp ha with rfl | ha'
    · exact List.find?_cons_of_pos (p := fun y => key y == key a) (beq_self_eq_true _)
    · rw [List.find?_cons_of_neg (p := fun y => key y == key a) fun hx =>
        hnd.1 (List.mem_map.mpr ⟨a, ha', (eq_of_beq hx).symm⟩)]
      exact ih hnd.2 ha'

theorem filter_key_le_one {α κ} [BEq κ] [LawfulBEq κ] (key : α → κ) {l : List α} (hnd : (l.map key).Nodup) (k : κ) :
    (l.filter fun x => key x == k).length ≤ 1 := by
  -- the keys of the filtered entries are a duplicate-free list of copies of `k`
  have hs : ((l.filter fun x => key x == k).map key).Nodup := hnd.sublist (List.filter_sublist.map key)
  have hr : (l.filter fun x => key x == k).map key = List.replicate (l.filter fun x => key x == k).length k :=
    List.eq_replicate_iff.mpr ⟨List.length_map _, fun b hb => by
      obtain ⟨x, hx, rfl⟩ := List.mem_map.mp hb
      exact eq_of_beq (List.mem_filter.mp hx).2⟩
  rw [hr, List.nodup_replicate] at hs
  exact hs

theorem lookup_some_iff_mem {κ β} [BEq κ] [LawfulBEq κ] {k : κ} {v : β} {l : List (κ × β)}
    (hnd : (l.map Prod.fst).Nodup) : l.lookup k = some v ↔ (k, v) ∈ l := by
  induction l with
  | nil => simp
  | cons kv rest ih =>
    obtain ⟨k', v'⟩ := kv
    rw [List.map_cons, List.nodup_cons] at hnd
    rw [List.lookup_cons, List.mem_cons, Prod.mk.injEq, ← ih hnd.2]
    by_cases hk : k = k'
    · subst hk
      have : rest.lookup k ≠ some v := fun h => hnd.1 (List.mem_map_of_mem (f := Prod.fst) ((ih hnd.2).mp h) :)
      simp [this, eq_comm]
    · simp [hk, beq_false_of_ne hk]

theorem perm_lookup {κ β} [BEq κ] [LawfulBEq κ] {k : κ} {a b : List (κ × β)} (hnd : (b.map Prod.fst).Nodup)
    (h : a.Perm b) : a.lookup k = b.lookup k :=
  Option.ext fun v => by rw [lookup_some_iff_mem ((h.map _).nodup_iff.mpr hnd), lookup_some_iff_mem hnd, h.mem_iff]

end MageModel
