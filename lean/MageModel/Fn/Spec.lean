import MageModel.Fn.CheckF
/-! The structural specification `WellTyped`, and how `stripPrefix` cuts a parameter list: `ins = pfx ins ++ rest`, with
`checkF`'s index computation landing at `(pfx ins).length`. -/
namespace MageModel.Fn

/-- (hasContext, isNamespace, remaining parameters) after the optional leading receiver and context -/
def stripPrefix : List Ty → Bool × Bool × List Ty
  | .ns :: .ctx :: rest => (true, true, rest)
  | .ns :: rest => (false, true, rest)
  | .ctx :: rest => (true, false, rest)
  | rest => (false, false, rest)

/-- The property's notion: valid result list; after the optional namespace receiver and context only supported
types; the arguments are values of exactly these types, in order, a variadic tail absorbing any number. -/
def WellTyped (s : Sig) (args : List ArgTy) : Prop :=
  (s.outs = [] ∨ s.outs = [Ty.err]) ∧
  (if s.variadic then
    ∃ fixed e tail, (stripPrefix s.ins).2.2 = fixed ++ [Ty.slice e] ∧ (∀ t ∈ fixed, t.supported = true) ∧
      e.supported = true ∧ args = fixed.map some ++ tail ∧ ∀ a ∈ tail, a = some e
  else (∀ t ∈ (stripPrefix s.ins).2.2, t.supported = true) ∧ args = (stripPrefix s.ins).2.2.map some)

/-- what `stripPrefix` removes, receiver before context: the order of `callVec` and of `idxOf`, not of the triple -/
def pfx (ins : List Ty) : List Ty :=
  (if (stripPrefix ins).2.1 then [Ty.ns] else []) ++ (if (stripPrefix ins).1 then [Ty.ctx] else [])

theorem stripPrefix_decomp (ins : List Ty) :
    ins = pfx ins ++ (stripPrefix ins).2.2 ∧
    idxOf ins = ⟨(stripPrefix ins).2.1, (stripPrefix ins).1, (pfx ins).length⟩ := by
  unfold pfx stripPrefix
  -- the patterns of `stripPrefix` overlap: the second and the fourth case know that the earlier ones did not match
  split
  next => simp [idxOf]                                        -- ns, ctx
  next rest notCtx =>                                         -- ns, no ctx after it
    cases rest with
    | nil => simp [idxOf]
    | cons b r =>
      have : b ≠ Ty.ctx := fun hb => notCtx r (by rw [hb])
      simp [idxOf, this]
  next => simp [idxOf]                                        -- ctx
  next _ notNs notCtx =>
    cases ins with
    | nil => simp [idxOf]
    | cons a r =>
      have ha : a ≠ Ty.ns := fun hb => notNs r (by rw [hb])
      have hc : a ≠ Ty.ctx := fun hb => notCtx r (by rw [hb])
      simp [idxOf, ha, hc]

theorem mem_pfx {ins : List Ty} {t : Ty} (h : t ∈ pfx ins) : t = Ty.ns ∨ t = Ty.ctx := by
  rcases List.mem_append.mp h with h | h
  · split at h
    · exact .inl (List.mem_singleton.mp h)
    · cases h
  · split at h
    · exact .inr (List.mem_singleton.mp h)
    · cases h

theorem callVec_flags (ins : List Ty) (args : List ArgTy) :
    callVec ((stripPrefix ins).1, (stripPrefix ins).2.1) args = (pfx ins).map some ++ args := by
  unfold callVec pfx
  cases (stripPrefix ins).1 <;> cases (stripPrefix ins).2.1 <;> rfl

theorem Sig.WF.ne_nil {s : Sig} (hwf : s.WF) (hv : s.variadic = true) : s.ins ≠ [] := by
  obtain ⟨e, pre, h⟩ := hwf hv
  rw [h]; simp

/-- reflect's guarantee reaches the stripped list: the slice is never taken for a receiver or a context -/
theorem rest_of_variadic {s : Sig} (hwf : s.WF) (hv : s.variadic = true) :
    ∃ fixed e, (stripPrefix s.ins).2.2 = fixed ++ [Ty.slice e] := by
  obtain ⟨e, pre, hins⟩ := hwf hv
  have hd := (stripPrefix_decomp s.ins).1
  rcases List.eq_nil_or_concat (stripPrefix s.ins).2.2 with h | ⟨fixed, last, h⟩
  · rw [h, List.append_nil] at hd
    have : Ty.slice e ∈ pfx s.ins := by rw [← hd, hins]; simp
    rcases mem_pfx this with h | h <;> cases h
  · refine ⟨fixed, e, ?_⟩
    rw [h, hins, List.concat_eq_append, ← List.append_assoc] at hd
    rw [h, List.concat_eq_append, ← (List.append_singleton_inj.mp hd).2]

theorem wellTyped_variadic_iff {s : Sig} (hv : s.variadic = true) {fixed : List Ty} {e : Ty}
    (hr : (stripPrefix s.ins).2.2 = fixed ++ [Ty.slice e]) {args : List ArgTy} :
    WellTyped s args ↔ (s.outs = [] ∨ s.outs = [Ty.err]) ∧ (∀ t ∈ fixed ++ [e], t.supported = true) ∧
      ∃ tail, args = fixed.map some ++ tail ∧ ∀ a ∈ tail, a = some e := by
  unfold WellTyped
  rw [hr, if_pos hv, List.forall_mem_append, List.forall_mem_singleton]
  refine and_congr_right fun _ => ⟨?_, fun ⟨⟨h1, h2⟩, tail, h3⟩ => ⟨fixed, e, tail, rfl, h1, h2, h3⟩⟩
  rintro ⟨f', e', tail, h, h1, h2, h3⟩
  obtain ⟨rfl, he⟩ := List.append_singleton_inj.mp h
  rw [Ty.slice.inj he]
  exact ⟨⟨h1, h2⟩, tail, h3⟩

end MageModel.Fn
