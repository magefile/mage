import MageModel.Fn.Spec
/-! The two loops of `checkF` over a `View`, the list of parameter types they read from an index to the end, instead of
indices. -/
namespace MageModel.Fn
variable {s : Sig}

theorem paramTy_nonvariadic (hv : s.variadic = false) (j : Nat) : paramTy s j = s.ins[j]? := by
  unfold paramTy
  cases s.ins[j]? <;> simp [hv]

theorem paramTy_variadic (hv : s.variadic = true) {pre : List Ty} {e : Ty} (hins : s.ins = pre ++ [Ty.slice e])
    (j : Nat) : paramTy s j = (pre ++ [e])[j]? := by
  unfold paramTy
  rw [hins, hv]
  rcases Nat.lt_trichotomy j pre.length with h | h | h
  · have : j ≠ pre.length := by omega
    simp [List.getElem?_append_left, h, this]
  · simp [h]
  · have hj : pre.length + 1 ≤ j := h
    rw [List.getElem?_eq_none (by rwa [List.length_append]), List.getElem?_eq_none (by rwa [List.length_append])]

/-- `l` is what the loops read from index `i` to the end of the parameter list (the element type standing for a
variadic slice) -/
structure View (s : Sig) (i : Nat) (l : List Ty) : Prop where
  length_eq : i + l.length = s.ins.length
  read : ∀ k, k < l.length → paramTy s (i + k) = l[k]?

theorem View.head {i : Nat} {t : Ty} {l : List Ty} (h : View s i (t :: l)) : paramTy s i = some t :=
  h.read 0 (Nat.zero_lt_succ _)

theorem View.tail {i : Nat} {t : Ty} {l : List Ty} (h : View s i (t :: l)) : View s (i + 1) l where
  length_eq := by rw [← h.length_eq, List.length_cons]; omega
  read k hk := by rw [Nat.add_assoc, Nat.add_comm 1 k]; exact h.read (k + 1) (Nat.succ_lt_succ hk)

theorem View.of_nonvariadic (hv : s.variadic = false) {p l : List Ty} (h : s.ins = p ++ l) :
    View s p.length l where
  length_eq := by rw [h, List.length_append]
  read k _ := by
    rw [paramTy_nonvariadic hv, h, List.getElem?_append_right (Nat.le_add_right ..), Nat.add_sub_cancel_left]

theorem View.of_variadic (hv : s.variadic = true) {p fixed : List Ty} {e : Ty}
    (h : s.ins = p ++ (fixed ++ [Ty.slice e])) : View s p.length (fixed ++ [e]) where
  length_eq := by simp only [h, List.length_append, List.length_singleton]
  read k _ := by
    have hins : s.ins = (p ++ fixed) ++ [Ty.slice e] := by rw [h, List.append_assoc]
    rw [paramTy_variadic hv hins, List.append_assoc,
      List.getElem?_append_right (Nat.le_add_right ..), Nat.add_sub_cancel_left]

theorem checkParams_view {i : Nat} {l : List Ty} (h : View s i l) :
    (checkParams s l.length i = .ok () ↔ ∀ t ∈ l, t.supported = true) ∧
    checkParams s l.length i ≠ .error .reflectPanic := by
  induction l generalizing i with
  | nil => simp [checkParams]
  | cons t l ih =>
    simp only [List.length_cons, checkParams, h.head, List.forall_mem_cons]
    cases ht : t.supported
    · simp
    · simpa using ih h.tail

theorem checkArgs_cons {x : Nat} {t : Ty} (a : ArgTy) (as : List ArgTy) (h : paramTy s x = some t) :
    (checkArgs s (if x < s.ins.length - 1 then x + 1 else x) as ≠ .error .reflectPanic →
      checkArgs s x (a :: as) ≠ .error .reflectPanic) ∧
    (t.supported = true → (checkArgs s x (a :: as) = .ok () ↔
      a = some t ∧ checkArgs s (if x < s.ins.length - 1 then x + 1 else x) as = .ok ())) := by
  simp only [checkArgs, h]
  cases t.supported
  · simp
  · by_cases ha : a = some t <;> simp [ha]

/-- the index stops at the last slot, so `e` takes every argument beyond `fixed` -/
theorem checkArgs_surplus {x : Nat} {fixed : List Ty} {e : Ty} (args : List ArgTy) (h : View s x (fixed ++ [e])) :
    checkArgs s x args ≠ .error .reflectPanic ∧
    ((∀ t ∈ fixed ++ [e], t.supported = true) → fixed.length ≤ args.length →
      (checkArgs s x args = .ok () ↔ ∃ tail, args = fixed.map some ++ tail ∧ ∀ a ∈ tail, a = some e)) := by
  have hx := h.length_eq
  induction args generalizing x fixed with
  | nil =>
    refine ⟨by simp [checkArgs], fun _ hl => ?_⟩
    have : fixed = [] := List.eq_nil_of_length_eq_zero (Nat.le_zero.mp hl)
    simp [checkArgs, this]
  | cons a as ih =>
    cases fixed with
    | nil =>   -- at the last slot: the index stays
      rw [List.nil_append, List.length_singleton] at hx
      obtain ⟨hpan, hok⟩ := checkArgs_cons a as h.head
      rw [if_neg (by omega)] at hpan hok
      have ih := ih (fixed := []) h h.length_eq
      refine ⟨hpan ih.1, fun hs _ => ?_⟩
      rw [hok (hs e (by simp)), ih.2 hs (Nat.zero_le _)]
      -- the tail is the whole list
      simp only [List.map_nil, List.nil_append, exists_eq_left', List.forall_mem_cons]
    | cons t f =>   -- at an earlier slot: the index moves on
      rw [List.cons_append, List.length_cons, List.length_append, List.length_singleton] at hx
      obtain ⟨hpan, hok⟩ := checkArgs_cons a as h.head
      rw [if_pos (by omega)] at hpan hok
      have ih := ih h.tail h.tail.length_eq
      refine ⟨hpan ih.1, fun hs hl => ?_⟩
      rw [hok (hs t (by simp)), ih.2 (fun u hu => hs u (List.mem_cons_of_mem _ hu)) (Nat.le_of_succ_le_succ hl)]
      -- `a :: as = some t :: (… ++ tail)` splits at the head
      simp only [List.map_cons, List.cons_append, List.cons.injEq, and_assoc, exists_and_left]

theorem checkArgs_exact {x : Nat} {l : List Ty} {args : List ArgTy} (h : View s x l) (hl : args.length = l.length) :
    checkArgs s x args ≠ .error .reflectPanic ∧
    ((∀ t ∈ l, t.supported = true) → (checkArgs s x args = .ok () ↔ args = l.map some)) := by
  -- `checkArgs_surplus` wants a last slot: none, and there is no argument either; or `l = fixed ++ [e]`
  rcases List.eq_nil_or_concat l with rfl | ⟨fixed, e, rfl⟩
  · rw [List.eq_nil_of_length_eq_zero hl]
    simp [checkArgs]
  · rw [List.concat_eq_append] at h hl ⊢
    rw [List.length_append, List.length_singleton] at hl
    have hA := checkArgs_surplus args h
    refine ⟨hA.1, fun hs => ?_⟩
    rw [hA.2 hs (by omega)]
    constructor
    · rintro ⟨tail, rfl, ht⟩
      match tail, hl, ht with
      | [a], _, ht => rw [ht a (by simp)]; simp
      | [], hl, _ => simp at hl
      | _ :: _ :: _, hl, _ => simp at hl
    · intro h; exact ⟨[some e], by simp [h], by simp⟩

end MageModel.Fn
