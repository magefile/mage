import MageModel.Fn.Json
/-!
`json.Marshal` of an argument list is injective on lists of one shape: two `mg.F` values over the same function
(hence the same parameter kinds) get the same identity only if their arguments are equal.
-/
namespace MageModel.Fn.Json

theorem split_unique {P : Char → Prop} {l l' : List Char} {t t' : Char} {r r' : List Char}
    (hl : ∀ c ∈ l, P c) (hl' : ∀ c ∈ l', P c) (ht : ¬ P t) (ht' : ¬ P t')
    (h : l ++ t :: r = l' ++ t' :: r') : l = l' ∧ t = t' ∧ r = r' := by
  -- one of `l`, `l'` is a prefix of the other, and a surplus would begin with the other side's terminator
  rcases List.append_eq_append_iff.mp h with ⟨m, h1, h2⟩ | ⟨m, h1, h2⟩
  · cases m with
    | nil => exact ⟨by simpa using h1.symm, List.cons.inj h2⟩
    | cons c m => exact absurd (hl' t (by simp [h1, (List.cons.inj h2).1])) ht
  · cases m with
    | nil => exact ⟨by simpa using h1, (List.cons.inj h2).1.symm, (List.cons.inj h2).2.symm⟩
    | cons c m => exact absurd (hl t' (by simp [h1, (List.cons.inj h2).1])) ht'

def IntCh (c : Char) : Prop := c = '-' ∨ c.isDigit = true

theorem toDigits_inj {a b : Nat} (h : Nat.toDigits 10 a = Nat.toDigits 10 b) : a = b := by
  have := congrArg (fun l => Nat.ofDigitChars 10 l 0) h
  simpa [Nat.ofDigitChars_ten_toDigits] using this

theorem intChars_class (i : Int) : ∀ c ∈ intChars i, IntCh c := by
  intro c hc
  unfold intChars at hc
  split at hc
  · -- negative: the sign, then digits
    rcases List.mem_cons.mp hc with h | h
    · exact Or.inl h
    · exact Or.inr (Nat.isDigit_of_mem_toDigits (by decide) (by decide) h)
  · exact Or.inr (Nat.isDigit_of_mem_toDigits (by decide) (by decide) hc)

theorem intChars_inj {i j : Int} (h : intChars i = intChars j) : i = j := by
  unfold intChars at h
  have hne : ∀ n rest, Nat.toDigits 10 n ≠ '-' :: rest := fun n rest he =>
    absurd (Nat.isDigit_of_mem_toDigits (n := n) (by decide) (by decide) (he ▸ List.mem_cons_self)) (by decide)
  split at h <;> split at h
  · have := toDigits_inj (List.cons.inj h).2   -- both negative
    omega
  · exact absurd h.symm (hne _ _)              -- `i` negative, `j` not
  · exact absurd h (hne _ _)                   -- `j` negative, `i` not
  · have := toDigits_inj h                     -- neither
    omega

def hexVal (c : Char) : Nat := if c.isDigit then c.toNat - 48 else c.toNat - 87

/-- the character that `\e` stands for -/
def unshort (e : Char) : Char :=
  if e = 'b' then '\x08' else if e = 'f' then '\x0c' else if e = 'n' then '\n'
  else if e = 'r' then '\r' else if e = 't' then '\t' else e

/-- Reads an escaped string up to its closing quote: `(decoded, what follows the quote)`, the decoded characters gathered
in `acc` in reverse.  Only a left inverse of `escape` (`unesc_escape`); on other input the result means nothing. -/
def unesc : List Char → List Char → Option (List Char × List Char)
  | [], _ => none
  | c :: rest, acc =>
    if c = '"' then some (acc.reverse, rest)
    else if c = '\\' then
      match rest with
      | 'u' :: a :: b :: x :: y :: rest' =>
        unesc rest' (Char.ofNat (4096 * hexVal a + 256 * hexVal b + 16 * hexVal x + hexVal y) :: acc)
      | e :: rest' => unesc rest' (unshort e :: acc)
      | [] => none
    else unesc rest (c :: acc)

theorem unesc_quote (rest acc : List Char) : unesc ('"' :: rest) acc = some (acc.reverse, rest) := by
  rw [unesc.eq_def]; simp
theorem unesc_plain {c : Char} {rest acc : List Char} (h1 : c ≠ '"') (h2 : c ≠ '\\') :
    unesc (c :: rest) acc = unesc rest (c :: acc) := by
  rw [unesc.eq_def]; simp [h1, h2]
theorem unesc_u {a b x y d : Char} {rest acc : List Char}
    (hd : Char.ofNat (4096 * hexVal a + 256 * hexVal b + 16 * hexVal x + hexVal y) = d) :
    unesc ('\\' :: 'u' :: a :: b :: x :: y :: rest) acc = unesc rest (d :: acc) := by
  rw [unesc.eq_def, ← hd]; simp
theorem unesc_short {e d : Char} {rest acc : List Char} (he : e ≠ 'u') (hd : unshort e = d) :
    unesc ('\\' :: e :: rest) acc = unesc rest (d :: acc) := by
  rw [unesc.eq_def, ← hd]
  simp only [show ('\\' : Char) ≠ '"' from by decide, if_false, if_true]
  split   -- on what follows the backslash: three cases, cheap (the dear one is the chain in `unesc_escChar`)
  next h => exact absurd (List.cons.inj h).1 he                 -- `u` and four more
  next h => rw [← (List.cons.inj h).1, ← (List.cons.inj h).2]   -- any other character
  next h => cases h                                             -- nothing

/-- `\u00XY` gives back the character code -/
theorem hexVal_u00 {n : Nat} (h : n < 256) :
    4096 * hexVal '0' + 256 * hexVal '0' + 16 * hexVal (hexDigit (n / 16)) + hexVal (hexDigit (n % 16)) = n := by
  have hd : ∀ n, n < 16 → hexVal (hexDigit n) = n := by decide
  rw [hd _ (by omega), hd _ (by omega), show hexVal '0' = 0 from rfl]; omega

theorem unesc_ite_eq {c : Char} (d : Char) {a b tail acc : List Char} (ha : unesc (a ++ tail) acc = unesc tail (d :: acc))
    (hb : c ≠ d → unesc (b ++ tail) acc = unesc tail (c :: acc)) :
    unesc ((if c = d then a else b) ++ tail) acc = unesc tail (c :: acc) :=
  iteInduction (motive := fun x => unesc (x ++ tail) acc = _) (fun h => h ▸ ha) hb

theorem unesc_escChar (c : Char) (tail acc : List Char) : unesc (escChar c ++ tail) acc = unesc tail (c :: acc) := by
  unfold escChar
  -- test by test, in `escChar`'s order (`split` on this chain of eleven tests over `Char` literals costs a hundred
  -- times as much)
  refine unesc_ite_eq '"' (unesc_short (by decide) rfl) fun hq => ?_
  refine unesc_ite_eq '\\' (unesc_short (by decide) rfl) fun hb => ?_
  refine unesc_ite_eq '\x08' (unesc_short (by decide) rfl) fun _ => ?_
  refine unesc_ite_eq '\x0c' (unesc_short (by decide) rfl) fun _ => ?_
  refine unesc_ite_eq '\n' (unesc_short (by decide) rfl) fun _ => ?_
  refine unesc_ite_eq '\r' (unesc_short (by decide) rfl) fun _ => ?_
  refine unesc_ite_eq '\t' (unesc_short (by decide) rfl) fun _ => ?_
  by_cases h : c.toNat < 0x20 ∨ c = '<' ∨ c = '>' ∨ c = '&'
  · have hlt : c.toNat < 256 := by
      rcases h with h | rfl | rfl | rfl
      · omega
      all_goals decide
    rw [if_pos h]
    exact unesc_u (by rw [hexVal_u00 hlt, Char.ofNat_toNat])
  rw [if_neg h]
  refine unesc_ite_eq '\u2028' (unesc_u rfl) fun _ => ?_
  refine unesc_ite_eq '\u2029' (unesc_u rfl) fun _ => ?_
  exact unesc_plain hq hb

theorem unesc_escape (s tail acc : List Char) : unesc (escape s ++ '"' :: tail) acc = some (acc.reverse ++ s, tail) := by
  induction s generalizing acc with
  | nil => simp [escape, unesc_quote]
  | cons c cs ih =>
    have : escape (c :: cs) = escChar c ++ escape cs := by simp [escape]
    rw [this, List.append_assoc, unesc_escChar, ih]
    simp

def Sep (t : Char) : Prop := t = ',' ∨ t = ']'

theorem sep_not_int_ch {t : Char} (h : Sep t) : ¬ IntCh t := by
  unfold IntCh
  rcases h with rfl | rfl
  · decide
  · decide

theorem split_of_class {α : Type} {P : Char → Prop} {f : α → List Char} (hP : ∀ a, ∀ c ∈ f a, P c)
    (hinj : ∀ {a b}, f a = f b → a = b) (hsep : ∀ {t}, Sep t → ¬ P t) {a b : α} {t t' : Char} (ht : Sep t) (ht' : Sep t')
    {r r' : List Char} (h : f a ++ t :: r = f b ++ t' :: r') : a = b ∧ t = t' ∧ r = r' := by
  obtain ⟨h1, h2⟩ := split_unique (hP a) (hP b) (hsep ht) (hsep ht') h
  exact ⟨hinj h1, h2⟩

theorem elem_split {v v' : Arg} (hk : v.kind = v'.kind) {t t' : Char} (ht : Sep t) (ht' : Sep t') {r r' : List Char}
    (h : encArg v ++ t :: r = encArg v' ++ t' :: r') : v = v' ∧ t = t' ∧ r = r' := by
  match v, v', hk with
  | .int i, .int j, _ | .dur i, .dur j, _ =>
    exact (split_of_class (f := intChars) intChars_class intChars_inj sep_not_int_ch ht ht' h).imp_left (congrArg _)
  | .bool b, .bool b', _ =>
    exact (split_of_class (f := fun b => encArg (.bool b)) (P := fun c => c.isAlpha = true)
      -- the two encodings are letters, differ, and the separators are no letters
      (by decide) (by decide) (by rintro t (rfl | rfl) <;> decide) ht ht' h).imp_left (congrArg _)
  | .str s, .str s', _ =>
    -- both sides are a quote, then an escaped string and a quote: decode them
    simpa [encArg, unesc_escape] using congrArg (fun l => unesc l.tail []) h

theorem encElems_inj {a b : List Arg} (hk : a.map Arg.kind = b.map Arg.kind) {r r' : List Char}
    (h : encElems a ++ ']' :: r = encElems b ++ ']' :: r') : a = b ∧ r = r' := by
  -- `hk` leaves `b` the same shape as `a`
  fun_induction encElems a generalizing b with
  | case1 =>
    cases b with
    | nil => exact ⟨rfl, (List.cons.inj h).2⟩
    | cons => cases hk
  | case2 x =>   -- the last element: `]` follows
    obtain _ | ⟨y, _ | _⟩ := b
    · cases hk
    · obtain ⟨rfl, _, h3⟩ := elem_split (List.cons.inj hk).1 (.inr rfl) (.inr rfl) h
      exact ⟨rfl, h3⟩
    · cases (List.cons.inj hk).2
  | case3 x x2 xs ih =>   -- an earlier element: `,` follows
    obtain _ | ⟨y, _ | ⟨y2, ys⟩⟩ := b
    · cases hk
    · cases (List.cons.inj hk).2
    · simp only [encElems, List.append_assoc, List.cons_append] at h
      obtain ⟨rfl, _, h3⟩ := elem_split (List.cons.inj hk).1 (.inl rfl) (.inl rfl) h
      obtain ⟨h4, h5⟩ := ih (List.cons.inj hk).2 h3
      exact ⟨by rw [h4], h5⟩

/-- **`json.Marshal` is injective on argument lists of one shape** (valid UTF-8 strings): equal identities, equal
arguments. -/
theorem encList_inj (a b : List Arg) (hk : a.map Arg.kind = b.map Arg.kind) (h : encList a = encList b) : a = b := by
  unfold encList at h
  have h' : encElems a ++ [']'] = encElems b ++ [']'] := (List.cons.inj h).2
  exact (encElems_inj hk h').1

theorem encList_congr (a b : List Arg) (h : a = b) : encList a = encList b := by rw [h]

example : encList [.int (-12), .str "a\"<\n é".toList, .bool true, .dur 1500000000] =
    "[-12,\"a\\\"\\u003c\\n é\",true,1500000000]".toList := by decide +kernel
/-- different kinds can collide (an int and a duration print alike) — which is why the shape hypothesis is there; for
one function the kinds are fixed by its signature (checkF demands exact types) -/
example : encList [.int 5] = encList [.dur 5] := by decide

end MageModel.Fn.Json
