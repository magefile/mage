import MageModel.Fn.Loops
/-! `checkF` read as guards followed by its two loops: one eliminator for the ways it ends, and from it that it accepts
exactly the well-typed argument lists. -/
namespace MageModel.Fn

theorem outs_ok_iff (outs : List Ty) :
    (¬ outs.length > 1 ∧ ¬ (outs.length = 1 ∧ outs[0]? ≠ some Ty.err)) ↔ (outs = [] ∨ outs = [Ty.err]) := by
  match outs with
  | [] => simp
  | [t] => simp
  | a :: b :: rest => simp

/-- what `checkF` asks before its loops: a valid result list, and a number of arguments that the parameters left after
the receiver and the context can take -/
def Guards (s : Sig) (args : List ArgTy) : Prop :=
  (s.outs = [] ∨ s.outs = [Ty.err]) ∧
  (s.variadic = true → (stripPrefix s.ins).2.2.length - 1 ≤ args.length) ∧
  (s.variadic = false → args.length = (stripPrefix s.ins).2.2.length)

/-- the two loops as `checkF` runs them: over the parameters after the prefix -/
def paramLoop (s : Sig) : Except Err Unit := checkParams s (stripPrefix s.ins).2.2.length (pfx s.ins).length
def argLoop (s : Sig) (args : List ArgTy) : Except Err Unit := checkArgs s (pfx s.ins).length args

variable {s : Sig} {args : List ArgTy}

/-- Without parameters both loops are empty, so the early return falls under `ok`; `h0` excludes the variadic function
without parameters, which reflect does not produce and which returns early whatever the arguments. -/
theorem checkF_cases {P : Except Err (Bool × Bool) → Prop}
    (h0 : s.variadic = true → s.ins ≠ [])
    (reject : ¬ Guards s args → ∀ e, e ≠ .reflectPanic → P (.error e))
    (loop : Guards s args → ∀ e, paramLoop s = .error e ∨ argLoop s args = .error e → P (.error e))
    (ok : Guards s args → paramLoop s = .ok () → argLoop s args = .ok () →
      P (.ok ((stripPrefix s.ins).1, (stripPrefix s.ins).2.1))) :
    P (checkF (.func s) args) := by
  unfold paramLoop argLoop at loop ok
  have hn : s.ins.length = (pfx s.ins).length + (stripPrefix s.ins).2.2.length := by
    rw [← List.length_append, ← (stripPrefix_decomp s.ins).1]
  unfold checkF
  -- `idxOf` goes, and every `s.ins.length` becomes `p + m` (`p` the prefix length, `m` the rest length).  The goal is then
  --   P (if outs.length > 1 then tooManyReturns else if outs.length = 1 ∧ outs[0]? ≠ some err then badReturn
  --      else if args.length > p + m ∧ variadic = false then tooManyArgs else if p + m = 0 then ok (false, false)
  --      else if variadic = true ∧ args.length < m - 1 then tooFewArgs
  --      else if variadic = false ∧ args.length ≠ m then wrongNumber else the two loops)
  simp only [(stripPrefix_decomp s.ins).2, hn, Nat.add_sub_cancel_left]
  refine iteInduction (fun h1 => reject (fun h => ((outs_ok_iff _).mpr h.1).1 h1) .tooManyReturns (by decide)) fun h1 => ?_
  refine iteInduction (fun h2 => reject (fun h => ((outs_ok_iff _).mpr h.1).2 h2) .badReturn (by decide)) fun h2 => ?_
  have ho := (outs_ok_iff _).mp ⟨h1, h2⟩
  refine iteInduction (fun h3 => reject (fun h => by have := h.2.2 h3.2; omega) .tooManyArgs (by decide)) fun h3 => ?_
  refine iteInduction (fun h4 => ?_) fun h4 => ?_   -- no parameters: the early return
  · have hins : s.ins = [] := List.eq_nil_of_length_eq_zero (hn.trans h4)
    have hv : s.variadic = false := Bool.eq_false_iff.mpr fun hv => h0 hv hins
    have ha : args.length = 0 := Nat.eq_zero_of_not_pos fun h => h3 ⟨by omega, hv⟩
    have hm : (stripPrefix s.ins).2.2.length = 0 := by omega
    have := ok ⟨ho, fun h => (by rw [hv] at h; cases h), fun _ => (by rw [ha, hm])⟩ (by rw [hm]; rfl)
      (by rw [List.eq_nil_of_length_eq_zero ha]; rfl)
    rw [hins] at this   -- `stripPrefix []` computes to `(false, false, [])`
    exact this
  refine iteInduction (fun h5 => reject (fun h => Nat.not_lt.mpr (h.2.1 h5.1) h5.2) .tooFewArgs (by decide)) fun h5 => ?_
  refine iteInduction (fun h6 => reject (fun h => h6.2 (h.2.2 h6.1)) .wrongNumber (by decide)) fun h6 => ?_
  have hg : Guards s args :=
    ⟨ho, fun hv => Nat.le_of_not_lt fun h => h5 ⟨hv, h⟩, fun hv => Decidable.not_not.mp fun h => h6 ⟨hv, h⟩⟩
  split
  next e hp => exact loop hg e (.inl hp)
  next hp =>
    split
    next e ha => exact loop hg e (.inr ha)
    next ha => exact ok hg hp ha

theorem WellTyped.guards (h : WellTyped s args) : Guards s args := by
  refine ⟨h.1, fun hv => ?_, fun hv => ?_⟩
  · have h2 := h.2
    rw [if_pos hv] at h2
    obtain ⟨fixed, e, tail, hr, _, _, ha, _⟩ := h2
    rw [hr, ha]; simp
  · have h2 := h.2
    rw [if_neg (Bool.eq_false_iff.mp hv)] at h2
    rw [h2.2]; simp

theorem loops_of_guards (hwf : s.WF) (hg : Guards s args) :
    (WellTyped s args ↔ paramLoop s = .ok () ∧ argLoop s args = .ok ()) ∧
    paramLoop s ≠ .error .reflectPanic ∧ argLoop s args ≠ .error .reflectPanic := by
  unfold paramLoop argLoop
  have hd := (stripPrefix_decomp s.ins).1
  obtain ⟨ho, hcv, hcn⟩ := hg
  cases hv : s.variadic
  · have hview := View.of_nonvariadic hv hd
    have hP := checkParams_view hview
    have hA := checkArgs_exact hview (hcn hv)
    refine ⟨?_, hP.2, hA.1⟩
    unfold WellTyped
    rw [if_neg (Bool.eq_false_iff.mp hv), hP.1]
    simp only [ho, true_and]
    exact and_congr_right fun hsup => (hA.2 hsup).symm
  · -- variadic: the parameter loop reads the last slot too, so the element type has to be supported even when no
    -- value is passed for it (the D14a fix)
    have hc := hcv hv
    obtain ⟨fixed, e, hr⟩ := rest_of_variadic hwf hv
    rw [hr] at hd hc ⊢
    have hview := View.of_variadic hv hd
    have hP := checkParams_view hview
    have hA := checkArgs_surplus args hview
    rw [show (fixed ++ [Ty.slice e]).length = (fixed ++ [e]).length by simp]
    refine ⟨?_, hP.2, hA.1⟩
    rw [wellTyped_variadic_iff hv hr, hP.1]
    simp only [ho, true_and]
    refine and_congr_right fun hsup => ?_
    rw [hA.2 hsup (by simpa using hc)]

/-- the acceptance theorem for a given result `r`; `Props.C14.checkF_ok_iff` is this without the flags -/
theorem checkF_ok_flags_iff (hwf : s.WF) {r : Bool × Bool} :
    checkF (.func s) args = .ok r ↔
      WellTyped s args ∧ r = ((stripPrefix s.ins).1, (stripPrefix s.ins).2.1) := by
  refine checkF_cases (P := fun res => res = .ok r ↔ _) hwf.ne_nil ?reject ?loop ?ok
  case reject =>
    exact fun hg e _ => ⟨nofun, fun h => absurd h.1.guards hg⟩
  case loop =>
    intro hg e he
    refine ⟨nofun, fun h => ?_⟩
    obtain ⟨hp, ha⟩ := (loops_of_guards hwf hg).1.mp h.1
    rw [hp, ha] at he
    exact he.elim nofun nofun
  case ok =>
    intro hg hp ha
    exact ⟨fun h => ⟨(loops_of_guards hwf hg).1.mpr ⟨hp, ha⟩, (Except.ok.inj h).symm⟩, fun h => by rw [h.2]⟩

end MageModel.Fn
